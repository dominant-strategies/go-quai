import QuaiVerif.Lemmas.Reorg
import QuaiVerif.Gen.Rollback
/-
C10: switching the canonical head from one branch to another leaves exactly the state of the winning branch.
Over the ledger model (outputs + lockup records, undo records written by block processing, rollback as replayed
by HeaderChain.SetCurrentHeader) for every pair of branches of any length and any block content that block
processing can produce:  rollback inverts a block, a segment, and therefore a reorg equals following the new
branch from the common ancestor; switching back restores the original state.
-/
namespace QuaiVerif.Reorg

/-- Rolling back a block restores exactly the state before it. -/
theorem C10_rollback_inverts_block (s0 : St) (acts : List Act) (ok : actsOK s0 (s0, {}) acts) :
    rollback (runBlock s0 acts).1 (runBlock s0 acts).2 = s0 := by
  have h := inv_run acts (s0, {}) (inv_init s0) ok
  -- `rollback` is `undo` on each key space, and `Inv` says what the two give
  show St.mk (undo _ _ _) (undo _ _ _) = s0
  rw [runBlock, h.1, h.2.1]

theorem rollbackAll_cons (s : St) (u : Undo) (us : List Undo) :
    rollbackAll s (u :: us) = rollback (rollbackAll s us) u := by
  simp [rollbackAll]

/-- Rolling back a whole segment, newest block first, restores the state at the common ancestor. -/
theorem C10_rollback_inverts_segment (s0 : St) (bs : List (List Act)) (ok : blocksOK s0 bs) :
    rollbackAll (runBlocks s0 bs).1 (runBlocks s0 bs).2 = s0 := by
  induction bs generalizing s0 with
  | nil => rfl
  | cons b bs ih =>
    rw [runBlocks, rollbackAll_cons, ih _ ok.2]
    exact C10_rollback_inverts_block s0 b ok.1

/-- A reorganisation from branch A to branch B leaves exactly the state (and undo records) reached by following B
from the common ancestor directly. -/
theorem C10_reorg_equals_direct (s0 : St) (A B : List (List Act)) (okA : blocksOK s0 A) :
    reorg (runBlocks s0 A).1 (runBlocks s0 A).2 B = runBlocks s0 B := by
  simp only [reorg, C10_rollback_inverts_segment s0 A okA]

/-- Switching to another branch and back restores the original branch's state and undo records. -/
theorem C10_switch_back (s0 : St) (A B : List (List Act)) (okA : blocksOK s0 A) (okB : blocksOK s0 B) :
    reorg (reorg (runBlocks s0 A).1 (runBlocks s0 A).2 B).1 (reorg (runBlocks s0 A).1 (runBlocks s0 A).2 B).2 A
      = runBlocks s0 A := by
  rw [C10_reorg_equals_direct s0 A B okA, C10_reorg_equals_direct s0 B A okB]

/-- Nothing created on the abandoned branch remains, nothing it spent stays missing: pointwise form. -/
theorem C10_no_residue (s0 : St) (A B : List (List Act)) (okA : blocksOK s0 A) (k : K) :
    (reorg (runBlocks s0 A).1 (runBlocks s0 A).2 B).1.ut k = (runBlocks s0 B).1.ut k ∧
    (reorg (runBlocks s0 A).1 (runBlocks s0 A).2 B).1.cl k = (runBlocks s0 B).1.cl k := by
  rw [C10_reorg_equals_direct s0 A B okA]; exact ⟨rfl, rfl⟩

def emptySt : St := { ut := fun _ => none, cl := fun _ => none }
def withLock : St := { ut := fun _ => none, cl := fun k => if k = "L" then some "v0" else none }

/-- If a block could delete a lockup record (a claim) and afterwards create a record under the same key (a coinbase
onto the now empty key), the undo records would restore the old record and then delete the key: the rollback
would lose the pre-block record.  `actOK` excludes this order (`k ∉ keys delLocks` for `lockNew`); in the code a
claim needs an epoch before the block's own (ClaimCoinbaseLockup: `epoch < number / CoinbaseEpochBlocks + 1`) while the
coinbases of a block open records of exactly that epoch, so one block never deletes and re-creates a key. -/
theorem C10_counterexample_recreate_after_delete :
    (rollback (runBlock withLock [.lockDelete "L", .lockNew "L" "v1"]).1
              (runBlock withLock [.lockDelete "L", .lockNew "L" "v1"]).2).cl "L" = none ∧ withLock.cl "L" = some "v0" := by
  constructor <;> simp [rollback, runBlock, runFrom, applyAct, withLock, del]

/-- Non-vacuity: a block with an output created and spent in the block, a pre-block output spent and another one
trimmed, a lockup created and accumulated, another one accumulated twice and claimed satisfies the hypotheses. -/
def sample0 : St :=
  { ut := fun k => if k = "a" then some "1" else if k = "b" then some "2" else none,
    cl := fun k => if k = "M" then some "m0" else none }
example : actsOK sample0 (sample0, {})
    [.createU "c" "3", .spendU "c", .spendU "a", .trimU "b", .lockNew "N" "n0", .lockReplace "N" "n1",
     .lockReplace "M" "m1", .lockReplace "M" "m2", .lockDelete "M"] := by
  simp [actsOK, actOK, applyAct, sample0, put, del, keys]

-- T1: the order of the rollback writes in the current source is the order modelled by `rollback`
/-- core/headerchain.go SetCurrentHeader, rollback loop: re-create spent and trimmed outputs, then delete created
keys, then restore deleted lockup records in reverse order, then delete created lockup keys; head pointer and
canonical hash are written in the same batch. -/
theorem C10_rollback_order_matches_model :
    Gen.rollbackWrites = ["CreateUTXO(spent++trimmed)", "Delete(createdUTXOKeys)", "Put(deletedLockups,reverse)",
      "Delete(createdLockupKeys)", "WriteHeadBlockHash(batch)", "WriteCanonicalHash(batch)", "batch.Write"] := by
  rfl

end QuaiVerif.Reorg
