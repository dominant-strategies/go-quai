import QuaiVerif.Lemmas.TrieCanonOps
/-
C18 — A trie's root depends only on its contents, and proofs prove exactly them.

Model: Model/Trie.lean (the Go insert / delete / get / hasher / Prove transcribed; concrete keccak and
RLP so that roots are byte-identical to the implementation's).  Tie: T2 area `trie` — every root,
lookup and proof of random histories on the real trie.Trie / SecureTrie / DeriveSha(StackTrie).
-/
namespace QuaiVerif.Trie

/-- **C18 (lookup after update)** in every well-formed trie, for all keys: after inserting `key ↦ v`
a lookup of `key` yields `v` and every other key is unaffected. -/
theorem C18_get_after_insert {t : Node} (hwf : WF t) (key : List Nat) (hk : HexKey key) (v : Bytes)
    (key' : List Nat) (hk' : HexKey key') :
    get (insert t key (.value v)) key' = if key' = key then some v else get t key' :=
  get_insert hwf hk v key' hk'

/-- **C18 (invariant)** well-formedness is preserved by every insert (so the refinement applies to
every trie reachable from the empty one). -/
theorem C18_insert_preserves_wf {t : Node} (hwf : WF t) (key : List Nat) (hk : HexKey key) (v : Bytes) :
    WF (insert t key (.value v)) := wf_insert hwf hk v

/-- a history of insertions -/
def runInserts (t : Node) (h : List (List Nat × Bytes)) : Node :=
  h.foldl (fun t kv => insert t kv.1 (.value kv.2)) t

/-- the abstract content after a history: last write wins -/
def content (base : List Nat → Option Bytes) (h : List (List Nat × Bytes)) : List Nat → Option Bytes :=
  h.foldl (fun f kv => fun k => if k = kv.1 then some kv.2 else f k) base

/-- every byte-string key in hex form is a `HexKey` (so the theorems apply to all real keys) -/
theorem C18_keyToHex_is_hexKey (k : Bytes) (hb : ∀ x ∈ k, x < 256) : HexKey (keyToHex k) := by
  refine ⟨k.flatMap fun b => [b / 16, b % 16], rfl, fun x hx => ?_⟩
  obtain ⟨b, hbk, hxb⟩ := List.mem_flatMap.mp hx
  rcases List.mem_cons.mp hxb with rfl | hxb
  · exact (Nat.div_lt_iff_lt_mul (by decide)).mpr (hb b hbk)
  · cases List.mem_singleton.mp hxb
    exact Nat.mod_lt b (by decide)

/-- **C18 (lookup after delete)** in every well-formed trie, for all keys: after deleting `key` a lookup of `key`
finds nothing and every other key is unaffected - through every collapse of a branch with one remaining child and
every merge of a short node with its short child. -/
theorem C18_get_after_delete {t : Node} (hwf : WF t) (key : List Nat) (hk : HexKey key) (key' : List Nat) (hk' : HexKey key') :
    get (delete t key) key' = if key' = key then none else get t key' :=
  get_delete hwf hk key' hk'

/-- **C18 (invariant)** well-formedness is preserved by every delete. -/
theorem C18_delete_preserves_wf {t : Node} (hwf : WF t) (key : List Nat) (hk : HexKey key) : WF (delete t key) :=
  wf_delete hwf hk

/-- a history of updates: `some v` writes, `none` deletes (Trie.Update with an empty value) -/
def runOps (t : Node) (h : List (List Nat × Option Bytes)) : Node :=
  h.foldl (fun t kv => match kv.2 with | some v => insert t kv.1 (.value v) | none => delete t kv.1) t

def contentOps (base : List Nat → Option Bytes) (h : List (List Nat × Option Bytes)) : List Nat → Option Bytes :=
  h.foldl (fun f kv => fun k => if k = kv.1 then kv.2 else f k) base

/-- `f` is any map the trie reads as, not only the empty one, so that the induction moves trie and map on together -/
theorem runOps_refines (h : List (List Nat × Option Bytes)) (hh : ∀ kv ∈ h, HexKey kv.1) {t : Node} (hwf : WF t)
    {f : List Nat → Option Bytes} (hf : ∀ k, HexKey k → get t k = f k) :
    WF (runOps t h) ∧ ∀ k, HexKey k → get (runOps t h) k = contentOps f h k := by
  induction h generalizing t f with
  | nil => exact ⟨hwf, hf⟩
  | cons kv rest ih =>
    have hk : HexKey kv.1 := hh kv List.mem_cons_self
    have hstep : WF (runOps t [kv]) ∧ Upd (runOps t [kv]) t kv.1 kv.2 := by
      obtain ⟨k, _ | v⟩ := kv
      · exact ⟨wf_delete hwf hk, get_delete hwf hk⟩
      · exact ⟨wf_insert hwf hk v, get_insert hwf hk v⟩
    exact ih (fun x hx => hh x (List.mem_cons_of_mem _ hx)) hstep.1 fun k hk' => by rw [hstep.2 k hk', hf k hk']

/-- **C18 (refinement to a map, every history of writes and deletes)** from the empty trie, after any sequence of
insertions and deletions, every lookup returns the last value written for that key, or nothing if it was deleted
last or never written. -/
theorem C18_update_history_refines_map (h : List (List Nat × Option Bytes)) (hh : ∀ kv ∈ h, HexKey kv.1)
    (key' : List Nat) (hk' : HexKey key') :
    get (runOps .nil h) key' = contentOps (fun _ => none) h key' :=
  (runOps_refines h hh WF.nil fun k _ => get_nil k).2 key' hk'

/-! ### histories of insertions only are histories of updates -/

theorem runInserts_eq_runOps (t : Node) (h : List (List Nat × Bytes)) :
    runInserts t h = runOps t (h.map fun kv => (kv.1, some kv.2)) := by
  simp [runInserts, runOps, List.foldl_map]

theorem content_eq_contentOps (f : List Nat → Option Bytes) (h : List (List Nat × Bytes)) :
    content f h = contentOps f (h.map fun kv => (kv.1, some kv.2)) := by
  simp [content, contentOps, List.foldl_map]

/-- **C18 (refinement to a map, every insertion history)** from the empty trie, after any sequence
of insertions with arbitrary keys (shared prefixes, one key a prefix of another before the
terminator, any lengths), every lookup returns the last value written for that key. -/
theorem C18_history_refines_map (h : List (List Nat × Bytes)) (hh : ∀ kv ∈ h, HexKey kv.1)
    (key' : List Nat) (hk' : HexKey key') :
    get (runInserts .nil h) key' = content (fun _ => none) h key' := by
  rw [runInserts_eq_runOps, content_eq_contentOps]
  exact C18_update_history_refines_map _ (List.forall_mem_map.mpr hh) key' hk'

/-- **C18 (content is history independent) — lookups only.** Two insertion histories that leave the same
last-written values give tries that agree on every lookup.  `C18_same_content_same_tree` below says more, and for
deletions too: they are the same tree, hence have the same root. -/
theorem C18_content_history_independent_partial (h1 h2 : List (List Nat × Bytes))
    (hh1 : ∀ kv ∈ h1, HexKey kv.1) (hh2 : ∀ kv ∈ h2, HexKey kv.1)
    (hc : ∀ k, HexKey k → content (fun _ => none) h1 k = content (fun _ => none) h2 k)
    (key' : List Nat) (hk' : HexKey key') :
    get (runInserts .nil h1) key' = get (runInserts .nil h2) key' := by
  rw [C18_history_refines_map h1 hh1 key' hk', C18_history_refines_map h2 hh2 key' hk', hc key' hk']

example : get (runOps .nil [(keyToHex [1, 2], some [7]), (keyToHex [1], some [8]), (keyToHex [1, 2], none)]) (keyToHex [1]) = some [8] ∧
          get (runOps .nil [(keyToHex [1, 2], some [7]), (keyToHex [1], some [8]), (keyToHex [1, 2], none)]) (keyToHex [1, 2]) = none := by
  decide

/-! ### the root depends only on the content -/

/-- every trie reachable from the empty one by writes and deletes is in canonical form -/
theorem C18_reachable_tries_canonical (h : List (List Nat × Option Bytes)) (hh : ∀ kv ∈ h, HexKey kv.1) :
    ∀ t, Canon t → Canon (runOps t h) := fun t ht =>
  List.foldlRecOn h _ ht fun t ht kv hkv => by
    obtain ⟨k, _ | v⟩ := kv
    · exact canon_delete ht (hh _ hkv)
    · exact canon_insert ht (hh _ hkv) v

/-- **C18 (the tree is a function of the content)** two histories of writes and deletes that leave the same content
produce the same tree, node for node. -/
theorem C18_same_content_same_tree (h1 h2 : List (List Nat × Option Bytes))
    (hh1 : ∀ kv ∈ h1, HexKey kv.1) (hh2 : ∀ kv ∈ h2, HexKey kv.1)
    (hc : ∀ k, HexKey k → contentOps (fun _ => none) h1 k = contentOps (fun _ => none) h2 k) :
    runOps .nil h1 = runOps .nil h2 := by
  apply canon_unique (C18_reachable_tries_canonical h1 hh1 .nil Canon.nil) _ (C18_reachable_tries_canonical h2 hh2 .nil Canon.nil)
  intro k hk
  rw [C18_update_history_refines_map h1 hh1 k hk, C18_update_history_refines_map h2 hh2 k hk, hc k hk]

/-- **C18 (the root depends only on the content)** hence the same root - under the real hash function (`root`) and under
any other. -/
theorem C18_root_depends_only_on_content (h1 h2 : List (List Nat × Option Bytes))
    (hh1 : ∀ kv ∈ h1, HexKey kv.1) (hh2 : ∀ kv ∈ h2, HexKey kv.1)
    (hc : ∀ k, HexKey k → contentOps (fun _ => none) h1 k = contentOps (fun _ => none) h2 k) :
    root (runOps .nil h1) = root (runOps .nil h2) ∧ ∀ H, rootWith H (runOps .nil h1) = rootWith H (runOps .nil h2) := by
  rw [C18_same_content_same_tree h1 h2 hh1 hh2 hc]
  exact ⟨rfl, fun _ => rfl⟩

example : runOps .nil [(keyToHex [1, 2], some [7]), (keyToHex [1], some [8]), (keyToHex [3], some [9]), (keyToHex [1, 2], none)] =
          runOps .nil [(keyToHex [3], some [9]), (keyToHex [1], some [8])] := by
  have hk : ∀ b : Bytes, (∀ x ∈ b, x < 256) → HexKey (keyToHex b) := C18_keyToHex_is_hexKey
  have d1 : keyToHex [1] ≠ keyToHex [1, 2] := by decide
  have d2 : keyToHex [3] ≠ keyToHex [1, 2] := by decide
  have d3 : keyToHex [1] ≠ keyToHex [3] := by decide
  apply C18_same_content_same_tree
  · intro kv hkv
    simp only [List.mem_cons, List.mem_nil_iff, or_false] at hkv
    rcases hkv with rfl | rfl | rfl | rfl <;> exact hk _ (by decide)
  · intro kv hkv
    simp only [List.mem_cons, List.mem_nil_iff, or_false] at hkv
    rcases hkv with rfl | rfl <;> exact hk _ (by decide)
  · generalize keyToHex [1, 2] = a, keyToHex [1] = b, keyToHex [3] = c at d1 d2 d3
    intro k _
    show (if k = a then none else if k = c then some [9] else if k = b then some [8] else if k = a then some [7] else none) =
      if k = b then some [8] else if k = c then some [9] else none
    by_cases e1 : k = a
    · rw [if_pos e1, e1, if_neg d1.symm, if_neg d2.symm]
    · rw [if_neg e1]
      by_cases e3 : k = b
      · rw [if_pos e3, e3, if_neg d3, if_pos rfl]
      · rw [if_neg e3, if_neg e3, if_neg e1]

/-! ### Non-vacuity: a concrete history with a shared prefix and a key that is a prefix of another -/
example : get (runInserts .nil [(keyToHex [1, 2], [7]), (keyToHex [1], [8]), (keyToHex [1, 2], [9])]) (keyToHex [1, 2]) = some [9] := by
  decide
example : get (runInserts .nil [(keyToHex [1, 2], [7]), (keyToHex [1], [8])]) (keyToHex [1]) = some [8] := by decide

end QuaiVerif.Trie
