import QuaiVerif.Model.Reward
import QuaiVerif.Lemmas.Arith
import QuaiVerif.Lemmas.List
/- C13 (issuance): every share gets exactly one reward, none more than the block reward, and all of them together
no more than the block reward (plus the one-unit floor per share); the time discount of a late share lies between the
floor and the full reward and is none for a prompt share. -/
namespace QuaiVerif.Reward

/-- one reward per share -/
theorem C13_one_reward_per_share (r : Nat) (es : List Nat) : (split r es).length = es.length := List.length_map _

theorem shareOf_eq (r total e : Nat) : shareOf r total e = if r * e / total = 0 then 1 else r * e / total := rfl

/-- no share is paid more than the whole block reward -/
theorem C13_share_at_most_block_reward (r : Nat) (es : List Nat) (hr : 0 < r) : ∀ v ∈ split r es, v ≤ r := by
  intro v hv
  obtain ⟨e, he, rfl⟩ := List.mem_map.mp hv
  rw [shareOf_eq]
  split
  · exact hr
  · exact mul_div_le_of_le r (mem_le_sum he)

/-- **C13 (no more than the block reward is issued)**: the rewards of a height add up to at most the block reward, apart
from the one-unit floor (at most one extra unit per share). -/
theorem C13_rewards_sum_at_most_block_reward (r : Nat) (es : List Nat) : (split r es).sum ≤ r + es.length := by
  -- the floors add up to at most the floor of the sum; each share is at most one above its floor
  have h : ∀ t (l : List Nat), (l.map (shareOf r t)).sum ≤ r * l.sum / t + l.length := by
    intro t l
    induction l with
    | nil => exact Nat.zero_le _
    | cons e rest ih =>
      simp only [List.map_cons, List.sum_cons, List.length_cons, Nat.mul_add]
      have h1 : shareOf r t e ≤ r * e / t + 1 := by
        rw [shareOf_eq]; split
        · exact Nat.le_add_left ..
        · exact Nat.le_add_right ..
      have h2 := @Nat.div_add_div_le_add_div (r * e) (r * rest.sum) t
      omega
  exact Nat.le_trans (h _ es) (Nat.add_le_add_right (mul_div_le_of_le r (Nat.le_refl _)) _)

example : split 1000 [30, 10, 10] = [600, 200, 200] ∧ split 5 [1000, 1] = [4, 1] := by decide

theorem clampDelay_eq (lt noPen since : Nat) : clampDelay lt noPen since = max noPen (min since lt) := by
  simp only [clampDelay, Nat.max_def, Nat.min_def, ← Nat.not_le, ite_not]

theorem clampDelay_of_le {noPen since : Nat} (lt : Nat) (h : since ≤ noPen) : clampDelay lt noPen since = noPen := by
  rw [clampDelay_eq]; exact Nat.max_eq_left (Nat.le_trans (Nat.min_le_left ..) h)

theorem clampDelay_le (lt noPen since : Nat) (h : noPen ≤ lt) : clampDelay lt noPen since ≤ lt := by
  rw [clampDelay_eq]; exact Nat.max_le.mpr ⟨h, Nat.min_le_right ..⟩

/- `timeDiscount` is `r * (p * D + (d - p) * x) / (d * D)` with `D = lt - noPen` the length of the penalty window and
`x = lt - delay` what is left of it: a linear interpolation between `r * p / d` at `x = 0` and `r` at `x = D`. -/

theorem interp_le (r : Nat) {p d x D : Nat} (hp : p ≤ d) (hx : x ≤ D) : r * (p * D + (d - p) * x) / (d * D) ≤ r := by
  apply mul_div_le_of_le
  calc p * D + (d - p) * x ≤ p * D + (d - p) * D := Nat.add_le_add_left (Nat.mul_le_mul_left _ hx) _
    _ = d * D := by rw [← Nat.add_mul, Nat.add_sub_cancel' hp]

theorem le_interp (r p x : Nat) {d D : Nat} (hD : 0 < D) : r * p / d ≤ r * (p * D + (d - p) * x) / (d * D) := by
  rw [← Nat.mul_div_mul_right (r * p) d hD, Nat.mul_assoc]
  exact Nat.div_le_div_right (Nat.mul_le_mul_left _ (Nat.le_add_right _ _))

theorem interp_full (r : Nat) {p d D : Nat} (hp : p ≤ d) (hd : 0 < d) (hD : 0 < D) :
    r * (p * D + (d - p) * D) / (d * D) = r := by
  rw [← Nat.add_mul, Nat.add_sub_cancel' hp, Nat.mul_comm]
  exact Nat.mul_div_cancel_left _ (Nat.mul_pos hd hD)

/-- the discounted reward never exceeds the undiscounted one -/
theorem C13_time_discount_at_most_reward (liveSha live noPen pen div : Nat) (sha : Bool) (reward sigTime ts : Nat)
    (hp : pen ≤ div) : timeDiscount liveSha live noPen pen div sha reward sigTime ts ≤ reward :=
  interp_le reward hp (Nat.sub_le_sub_left (clampDelay_eq .. ▸ Nat.le_max_left ..) _)

/-- and never falls below the unlively share: `pen/div` of the reward -/
theorem C13_time_discount_at_least_floor (liveSha live noPen pen div : Nat) (sha : Bool) (reward sigTime ts : Nat)
    (hd : 0 < div) (hlt : noPen < (if sha then liveSha else live)) :
    reward * pen / div ≤ timeDiscount liveSha live noPen pen div sha reward sigTime ts :=
  le_interp reward pen _ (Nat.sub_pos_of_lt hlt)

/-- a share that is no later than the no-penalty threshold is paid in full -/
theorem C13_time_discount_none_when_prompt (liveSha live noPen pen div : Nat) (sha : Bool) (reward sigTime ts : Nat)
    (hp : pen ≤ div) (hd : 0 < div) (hlt : noPen < (if sha then liveSha else live))
    (hprompt : (ts + 2 ^ 32 - sigTime % 2 ^ 32) % 2 ^ 32 ≤ noPen) :
    timeDiscount liveSha live noPen pen div sha reward sigTime ts = reward := by
  simp only [timeDiscount, clampDelay_of_le _ hprompt]
  exact interp_full reward hp hd (Nat.sub_pos_of_lt hlt)

example : timeDiscount 30 18 3 70 100 true 1000000000 1000 1016 = 855555555 ∧
          timeDiscount 30 18 3 70 100 false 1000000000 1000 1016 = 740000000 ∧
          timeDiscount 30 18 3 70 100 true 1000000000 1000 1002 = 1000000000 := by decide

end QuaiVerif.Reward
