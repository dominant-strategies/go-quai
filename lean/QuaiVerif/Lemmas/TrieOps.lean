import QuaiVerif.Lemmas.Trie
/- `insert` and `delete` on a well-formed trie (C18): an equation of each for every situation of `WF.key_induction`;
both keep the trie well formed and change the answer to exactly one key (`Upd`). -/
namespace QuaiVerif.Trie

theorem insert_nil_key (n : Node) (v : Node) : insert n [] v = v := by
  cases n <;> rfl

theorem insert_nil (key : List Nat) (v : Node) : insert .nil key v = mk key v := by
  cases key <;> rfl

theorem insert_short (k : List Nat) (c : Node) (key : List Nat) (v : Node) (h : key ≠ []) :
    insert (.short k c) key v =
      if prefixLen key k = k.length then .short k (insert c (key.drop (prefixLen key k)) v)
      else
        let br := Node.full (upd (upd (fun _ => .nil) (k.getD (prefixLen key k) 0) (mk (k.drop (prefixLen key k + 1)) c))
          (key.getD (prefixLen key k) 0) (mk (key.drop (prefixLen key k + 1)) v))
        if prefixLen key k = 0 then br else .short (key.take (prefixLen key k)) br := by
  cases key with
  | nil => exact absurd rfl h
  | cons x r => rfl

theorem insert_short_prefix {k : List Nat} {c : Node} {r : List Nat} {v : Node} (hk : k ≠ []) :
    insert (.short k c) (k ++ r) v = .short k (insert c r v) := by
  rw [insert_short _ _ _ _ (mt List.append_eq_nil_iff.mp fun h => hk h.1), prefixLen_prefix, if_pos rfl, List.drop_left]

theorem insert_short_same {k : List Nat} {c v : Node} (hk : k ≠ []) : insert (.short k c) k v = .short k v := by
  have := insert_short_prefix (c := c) (r := []) (v := v) hk
  rwa [List.append_nil, insert_nil_key] at this

theorem insert_short_split {p : List Nat} {x : Nat} {rk : List Nat} {a : Nat} {ra : List Nat} {c v : Node} (hxa : x ≠ a) :
    insert (.short (p ++ a :: ra) c) (p ++ x :: rk) v =
      mk p (.full (upd (upd (fun _ => .nil) a (mk ra c)) x (mk rk v))) := by
  rw [insert_short _ _ _ _ (by simp), prefixLen_fork p rk ra hxa, if_neg (by simp)]
  have hd : ∀ (y : Nat) (l : List Nat), (p ++ y :: l).getD p.length 0 = y ∧ (p ++ y :: l).drop (p.length + 1) = l := by
    simp [List.getD_eq_getElem?_getD, List.drop_append]
  rw [(hd a ra).1, (hd a ra).2, (hd x rk).1, (hd x rk).2, List.take_left' rfl]
  cases p <;> simp [mk]

theorem insert_full_cons (cs : Nat → Node) (x : Nat) (rest : List Nat) (v : Node) :
    insert (.full cs) (x :: rest) v = .full (upd cs x (insert (cs x) rest v)) := rfl

theorem get_insert {t : Node} (hwf : WF t) {key : List Nat} (hk : HexKey key) (v : Bytes) :
    Upd (insert t key (.value v)) t key (some v) := by
  refine hwf.key_induction hk ?nil ?hit ?below ?fork ?full
  case nil =>
    intro key _
    rw [insert_nil]
    exact Upd.leaf key v
  case hit =>
    intro k w hk q _
    rw [insert_short_same (hexKey_ne_nil hk), get_leaf, get_leaf]
    split <;> rfl
  case below =>
    intro k c r hnk hne hc hr ih
    rw [insert_short_prefix hne]
    exact ih.short hnk
  case fork =>
    intro p x rk a ra c hxa hp _ hxk q hq
    -- read the old short node as a branch with one child behind `p`; the new key goes into the empty slot `x`
    -- (the first two rewrites shape the new trie, the last two the old one)
    rw [insert_short_split hxa, get_mk, get_short_split, get_short_congr (get_short_cons a ra c)]
    refine (Upd.full ?_).short hp q hq
    rw [upd_other hxa]
    exact (hexKey_cons_iff.mp hxk).imp (fun ⟨hx, hr⟩ => ⟨hx, hr, by subst hr; rfl⟩) fun ⟨hx, _⟩ => ⟨hx, Upd.leaf rk v⟩
  case full =>
    intro cs x rest _ h
    rw [insert_full_cons]
    exact Upd.full (h.imp (fun ⟨hx, hr⟩ => ⟨hx, hr, by rw [hr, insert_nil_key]; rfl⟩) fun ⟨hx, _, ih⟩ => ⟨hx, ih⟩)

theorem wf_insert {t : Node} (hwf : WF t) {key : List Nat} (hk : HexKey key) (v : Bytes) :
    WF (insert t key (.value v)) := by
  refine hwf.key_induction hk ?nil ?hit ?below ?fork ?full
  case nil =>
    intro key hk
    rw [insert_nil]
    exact wf_mk (Or.inl ⟨hk, v, rfl⟩)
  case hit =>
    intro k w hk
    rw [insert_short_same (hexKey_ne_nil hk)]
    exact wf_leaf hk v
  case below =>
    intro k c r hnk hne _ _ ih
    rw [insert_short_prefix hne]
    exact WF.ext k _ hnk hne ih ih.notValue
  case fork =>
    intro p x rk a ra c hxa hp ha hxk
    have hx : Behind (x :: rk) (.value v) := Or.inl ⟨hxk, v, rfl⟩
    rw [insert_short_split hxa]
    exact wf_mk (Or.inr ⟨hp, wf_full_upd (wf_full_upd wf_full_nil (Or.inr (behind_cons ha))) (Or.inr (behind_cons hx))⟩)
  case full =>
    intro cs x rest hwf h
    rw [insert_full_cons]
    refine wf_full_upd hwf (Or.inr (behind_singleton.mpr ?_))
    exact h.imp (fun ⟨hx, hr⟩ => ⟨hx, v, by rw [hr, insert_nil_key]⟩) fun ⟨hx, _, ih⟩ => ⟨hx, ih⟩

theorem isNil_iff (n : Node) : isNil n = true ↔ n = .nil := by
  cases n <;> simp [isNil]

theorem mem_nonNil (cs : Nat → Node) (i : Nat) :
    i ∈ (List.range 17).filter (fun i => !isNil (cs i)) ↔ i < 17 ∧ cs i ≠ .nil := by
  simp [← isNil_iff]

theorem singleChild_spec {cs : Nat → Node} {p : Nat} (h : singleChild cs = some p) :
    p < 17 ∧ cs p ≠ .nil ∧ ∀ i, i < 17 → i ≠ p → cs i = .nil := by
  unfold singleChild at h
  have hmem := mem_nonNil cs
  generalize (List.range 17).filter (fun i => !isNil (cs i)) = l at h hmem
  match l, h with
  | [q], h =>
    cases h
    have hq := (hmem p).mp (by simp)
    refine ⟨hq.1, hq.2, fun i hi hne => Classical.byContradiction fun hn => hne ?_⟩
    simpa using (hmem i).mpr ⟨hi, hn⟩

theorem singleChild_none_spec {cs : Nat → Node} (h : singleChild cs = none) :
    (∀ i, i < 17 → cs i = .nil) ∨ (∃ i j, i < 17 ∧ j < 17 ∧ i ≠ j ∧ cs i ≠ .nil ∧ cs j ≠ .nil) := by
  unfold singleChild at h
  have hmem := mem_nonNil cs
  have hnd : ((List.range 17).filter (fun i => !isNil (cs i))).Nodup :=
    List.Nodup.sublist List.filter_sublist List.nodup_range
  generalize (List.range 17).filter (fun i => !isNil (cs i)) = l at h hmem hnd
  match l, h with
  | [], _ =>
    exact Or.inl fun i hi => Classical.byContradiction fun hn => by simpa using (hmem i).mpr ⟨hi, hn⟩
  | a :: b :: rest, _ =>
    have ha := (hmem a).mp (by simp)
    have hb := (hmem b).mp (by simp)
    exact Or.inr ⟨a, b, ha.1, hb.1, fun e => (List.nodup_cons.mp hnd).1 (by simp [e]), ha.2, hb.2⟩

/-- the three shapes `delete` may leave below a short node, looked up through that short node -/
def rejoin (k : List Nat) (d : Node) : Node :=
  match d with
  | .short k2 c2 => .short (k ++ k2) c2
  | .nil => .nil
  | child => .short k child

theorem get_rejoin (k : List Nat) (d : Node) (q : List Nat) : get (rejoin k d) q = get (.short k d) q := by
  cases d with
  | nil => rw [get_short]; split <;> simp [rejoin, get_nil]
  | short k2 c2 => exact get_short_split k k2 c2 q
  | _ => rfl

theorem wf_rejoin {k : List Nat} {d : Node} (hne : k ≠ []) (h : Behind k d) : WF (rejoin k d) := by
  cases d with
  | nil => exact WF.nil
  | short k2 c2 =>
    rcases h with ⟨_, _, h⟩ | ⟨hk, h⟩
    · cases h
    · have h := wf_short_iff.mp h
      exact wf_short_iff.mpr ⟨by simp [hne], (behind_append h.1).mpr ⟨hk, h.2⟩⟩
  | _ => exact wf_short_iff.mpr ⟨hne, h⟩

theorem delete_nil (key : List Nat) : delete .nil key = .nil := by
  cases key <;> simp [delete]

theorem delete_short (k : List Nat) (c : Node) (key : List Nat) :
    delete (.short k c) key =
      if prefixLen key k < k.length then .short k c
      else if prefixLen key k = key.length then .nil
      else rejoin k (delete c (key.drop k.length)) := by
  rw [delete]
  unfold rejoin
  cases delete c (key.drop k.length) <;> rfl

theorem delete_short_same (k : List Nat) (c : Node) : delete (.short k c) k = .nil := by
  have hm := prefixLen_prefix k []
  rw [List.append_nil] at hm
  rw [delete_short, hm, if_neg (Nat.lt_irrefl _), if_pos rfl]

theorem delete_short_prefix {k : List Nat} {c : Node} {r : List Nat} (hr : r ≠ []) :
    delete (.short k c) (k ++ r) = rejoin k (delete c r) := by
  rw [delete_short, prefixLen_prefix, if_neg (Nat.lt_irrefl _), if_neg (by simpa using hr), List.drop_left]

theorem delete_short_fork {p : List Nat} {x : Nat} {rk : List Nat} {a : Nat} {ra : List Nat} {c : Node} (hxa : x ≠ a) :
    delete (.short (p ++ a :: ra) c) (p ++ x :: rk) = .short (p ++ a :: ra) c := by
  rw [delete_short, prefixLen_fork p rk ra hxa, if_pos (by simp)]

theorem delete_term {cs : Nat → Node} (h : WF (.full cs)) : delete (cs 16) [] = .nil := by
  cases h with
  | full _ _ _ h16 => rcases h16 with h | ⟨v, h⟩ <;> rw [h] <;> rfl

/-- a branch after a delete below it: it stays, or (its last but one child gone) collapses into its only child -/
theorem delete_full_cons {cs : Nat → Node} (hwf : WF (.full cs)) (x : Nat) (rest : List Nat) :
    (delete (.full cs) (x :: rest) = .full (upd cs x (delete (cs x) rest)) ∧
      (delete (cs x) rest ≠ .nil ∨ singleChild (upd cs x (delete (cs x) rest)) = none)) ∨
    ∃ pos, singleChild (upd cs x (delete (cs x) rest)) = some pos ∧
      delete (.full cs) (x :: rest) = rejoin [pos] (upd cs x (delete (cs x) rest) pos) := by
  simp only [delete]
  by_cases hnn : delete (cs x) rest = .nil
  · rw [hnn]
    simp only [isNil, Bool.not_true, Bool.false_eq_true, if_false]
    cases hs : singleChild (upd cs x .nil) with
    | none => exact Or.inl ⟨rfl, Or.inr rfl⟩
    | some pos =>
      refine Or.inr ⟨pos, rfl, ?_⟩
      have hne := (singleChild_spec hs).2.1
      dsimp only
      -- Go looks for a short child to merge with only when `pos ≠ 16`; slot 16 of a well-formed branch holds none,
      -- and the only child is not nil, so in both cases the result is `rejoin`
      split
      · generalize upd cs x .nil pos = d at hne
        cases d with
        | nil => exact absurd rfl hne
        | _ => rfl
      · next h16 =>
        cases (Decidable.not_not.mp h16 : pos = 16)
        have h16 : upd cs x .nil 16 = .nil ∨ ∃ v, upd cs x .nil 16 = .value v := by
          unfold upd
          split
          · exact Or.inl rfl
          · cases hwf with
            | full _ _ _ h => exact h
        rcases h16 with h | ⟨v, h⟩
        · exact absurd h hne
        · rw [h]; rfl
  · rw [Bool.eq_false_iff.mpr (mt (isNil_iff _).mp hnn)]
    exact Or.inl ⟨if_pos rfl, Or.inl hnn⟩

theorem wf_delete {t : Node} (hwf : WF t) {key : List Nat} (hk : HexKey key) : WF (delete t key) := by
  refine hwf.key_induction hk ?nil ?hit ?below ?fork ?full
  case nil => intro key _; rw [delete_nil]; exact WF.nil
  case hit => intro k w _; rw [delete_short_same]; exact WF.nil
  case below =>
    intro k c r hnk hne _ hr ih
    rw [delete_short_prefix (hexKey_ne_nil hr)]
    exact wf_rejoin hne (Or.inr ⟨hnk, ih⟩)
  case fork =>
    intro p x rk a ra c hxa hp ha _
    rw [delete_short_fork hxa]
    exact wf_short_iff.mpr ⟨by simp, (behind_append (List.cons_ne_nil a ra)).mpr ⟨hp, ha⟩⟩
  case full =>
    intro cs x rest hwf h
    have hcs' : WF (.full (upd cs x (delete (cs x) rest))) := by
      refine wf_full_upd hwf ?_
      rcases h with ⟨rfl, rfl⟩ | ⟨hx, _, ih⟩
      · exact Or.inl (delete_term hwf)
      · exact Or.inr (behind_singleton.mpr (Or.inr ⟨hx, ih⟩))
    rcases delete_full_cons hwf x rest with ⟨e, _⟩ | ⟨pos, hs, e⟩ <;> rw [e]
    · exact hcs'
    · obtain ⟨hp, hne, _⟩ := singleChild_spec hs
      exact wf_rejoin (by simp) ((wf_full_iff.mp hcs' pos (Nat.le_of_lt_succ hp)).resolve_left hne)

/-- the collapse of a branch is invisible to lookups -/
theorem get_delete_full {cs : Nat → Node} (hwf : WF (.full cs)) (x : Nat) (rest : List Nat) {q : List Nat} (hq : HexKey q) :
    get (delete (.full cs) (x :: rest)) q = get (.full (upd cs x (delete (cs x) rest))) q := by
  rcases delete_full_cons hwf x rest with ⟨e, _⟩ | ⟨pos, hs, e⟩ <;> rw [e]
  -- (the branch stayed: nothing to show)  a branch with a single child reads like the short node that leads to that child
  obtain ⟨y, s, rfl⟩ := List.exists_cons_of_ne_nil (hexKey_ne_nil hq)
  rw [get_rejoin, get_short_cons, get_full_cons, get_full_cons]
  by_cases hy : y = pos
  · rw [hy, upd_same]; rfl
  · rw [upd_other hy, (singleChild_spec hs).2.2 y (hexKey_head_lt hq) hy]

theorem get_delete {t : Node} (hwf : WF t) {key : List Nat} (hk : HexKey key) : Upd (delete t key) t key none := by
  refine hwf.key_induction hk ?nil ?hit ?below ?fork ?full
  case nil =>
    intro key _ q _
    rw [delete_nil, get_nil]; split <;> rfl
  case hit =>
    intro k w _ q _
    rw [delete_short_same, get_nil, get_leaf]; split <;> rfl
  case below =>
    intro k c r hnk _ _ hr ih q hq
    rw [delete_short_prefix (hexKey_ne_nil hr), get_rejoin]
    exact ih.short hnk q hq
  case fork =>
    intro p x rk a ra c hxa _ _ _ q _
    rw [delete_short_fork hxa]
    split
    · next e => rw [e, get_short_none]; simp [Ne.symm hxa]
    · rfl
  case full =>
    intro cs x rest hwf h q hq
    rw [get_delete_full hwf x rest hq]
    refine Upd.full (h.imp (fun ⟨hx, hr⟩ => ⟨hx, hr, ?_⟩) fun ⟨hx, _, ih⟩ => ⟨hx, ih⟩) q hq
    rw [hx, hr, delete_term hwf]; rfl

end QuaiVerif.Trie
