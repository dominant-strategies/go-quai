import QuaiVerif.Model.Mem
import QuaiVerif.Gen.JumpTable
import QuaiVerif.Lemmas.Guard
import QuaiVerif.Lemmas.List
/-
C15 — No input can crash the node or make it use resources it did not pay for.
This file: interpreter memory is bounded by the gas paid (every opcode that can grow memory is charged the
expansion cost).  Tie: T1 Gen/JumpTable.lean (memorySize / dynamicGas per opcode, regenerated) and T2/T3
area `mem` (real interpreter runs per opcode with sizes up to 2^64; peak Memory.Len() vs. gas used; and
structure-aware fuzzing of the wire decoders under recover()).
-/
namespace QuaiVerif.Mem

theorem memCost_mono {a b : Nat} (h : a ≤ b) : memCost a ≤ memCost b :=
  Nat.add_le_add (Nat.mul_le_mul_right 3 h) (Nat.div_le_div_right (Nat.mul_le_mul h h))

/-- invariant: what was paid for memory is the cost of the current size, and paid + left ≤ budget -/
def Inv (budget : Nat) (s : St) : Prop := s.paid = memCost s.words ∧ s.paid + s.gas ≤ budget

/-- Raising what was paid to a higher fee out of the gas keeps paid + gas where it was. -/
theorem pay_fee {paid cost gas : Nat} (h1 : paid ≤ cost) (h2 : cost - paid ≤ gas) :
    cost + (gas - (cost - paid)) = paid + gas :=
  calc cost + (gas - (cost - paid)) = paid + (cost - paid) + (gas - (cost - paid)) := by rw [Nat.add_sub_of_le h1]
    _ = paid + gas := by rw [Nat.add_assoc, Nat.add_sub_of_le h2]

theorem inv_step {budget : Nat} {s s' : St} {size other : Nat} (h : Inv budget s)
    (hs : step s size true other = some s') : Inv budget s' ∧ s.words ≤ s'.words := by
  obtain ⟨hp, hb⟩ := h
  have hb' : s.paid + (s.gas - other) ≤ budget := Nat.le_trans (Nat.add_le_add_left (Nat.sub_le ..) _) hb
  simp only [step, ite_none_eq_some, if_true, Nat.not_lt, Bool.or_eq_true, decide_eq_true_eq] at hs
  obtain ⟨-, hs⟩ := hs
  split at hs
  · cases hs
    exact ⟨⟨hp, hb'⟩, Nat.le_refl _⟩
  · next hgrow =>
    obtain ⟨hfee, hs⟩ := ite_none_eq_some.mp hs
    cases hs
    have hw : s.words ≤ toWords size := Nat.le_of_lt (Nat.not_le.mp fun h => hgrow (.inr h))
    exact ⟨⟨rfl, Nat.le_trans (Nat.le_of_eq (pay_fee (hp ▸ memCost_mono hw) (Nat.not_lt.mp hfee))) hb'⟩, hw⟩

/-- **C15 (memory is paid for)** if every memory-growing instruction of a program is charged the
expansion cost, then after any prefix of its execution with gas budget `g` the memory size `w` (words)
satisfies `3w + w²/512 ≤ g`: peak memory is bounded by the gas purchased. -/
theorem C15_memory_bounded_by_gas (prog : List (Nat × Bool × Nat)) (hall : ∀ i ∈ prog, i.2.1 = true) :
    ∀ (s s' : St) (budget : Nat), Inv budget s → run s prog = some s' → memCost s'.words ≤ budget := by
  intro s s' budget hi hr
  fun_induction run s prog with
  | case1 s =>
    cases hr
    exact hi.1 ▸ Nat.le_trans (Nat.le_add_right ..) hi.2
  | case2 => cases hr
  | case3 s size ch other rest s1 hst ih =>
    cases hall _ List.mem_cons_self
    exact ih (fun j hj => hall j (List.mem_cons_of_mem _ hj)) (inv_step hi hst).1 hr

/-- an uncharged memory-growing instruction breaks the bound: 2^23 words (256 MiB) for 100 gas -/
theorem C15_counterexample_uncharged :
    (run { words := 0, gas := 100, paid := 0 } [(2 ^ 28, false, 50)]).map (·.words) = some (2 ^ 23) := by
  decide

/-- **C15 (T1)** in the current jump table every opcode that declares a `memorySize` has a dynamic gas
function that charges memory expansion — except the ETX opcode (recorded finding S5, still open). -/
theorem C15_memory_ops_charged :
    (Gen.opTable.filter fun e => e.2.1 && !e.2.2).map (·.1) = ["ETX"] := by decide +kernel

/-- the opcodes that *are* charged include every classic memory opcode (the table is not vacuous) -/
theorem C15_table_nonvacuous :
    (["MLOAD", "MSTORE", "MSTORE8", "SHA3", "CALLDATACOPY", "CODECOPY", "RETURNDATACOPY", "EXTCODECOPY", "MCOPY", "LOG0", "LOG4",
      "CREATE", "CREATE2", "CALL", "CALLCODE", "DELEGATECALL", "STATICCALL", "RETURN", "REVERT"].all fun n =>
        Gen.opTable.any fun e => e.1 == n && e.2.1 && e.2.2) = true := by
  -- comparing strings is what the kernel pays for: keep the charged rows first (booleans only), then look the names up in those
  simp only [Bool.and_assoc, any_and_right]
  decide +kernel

/-- `toWordSize` never under-reports: the words cover the requested bytes (no wrap-around in the model;
the Go function must guard `size > MaxUint64-31`, checked by T3 at sizes up to 2^64-1) -/
theorem C15_words_cover_size (size : Nat) : size ≤ toWords size * 32 := by
  unfold toWords; omega

example : Inv 1000 { words := 0, gas := 1000, paid := 0 } := by simp [Inv, memCost]
example : (run { words := 0, gas := 1000, paid := 0 } [(64, true, 3), (4096, true, 3)]).map (·.words) = some 128 := by decide

end QuaiVerif.Mem
