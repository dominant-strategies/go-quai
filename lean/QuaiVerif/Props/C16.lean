import QuaiVerif.Model.Addr
/-
C16 — Every address has one zone and one ledger, respected by all state.
Model: Model/Addr.lean; tie: T2 area `addr` (all constructors / decoders / createObject / Create on
the real code).
-/
namespace QuaiVerif.Addr

/-! ### (1) zone and ledger are total functions of the 20 bytes: a partition -/

theorem isQi_eq_not_isQuai (a : Bytes) : isQi a = !isQuai a := by
  simp only [isQi, isQuai, ← decide_not, Nat.not_le]

theorem C16_ledger_partition (a : Bytes) : (isQi a = true ∧ isQuai a = false) ∨ (isQi a = false ∧ isQuai a = true) := by
  rw [isQi_eq_not_isQuai]
  cases isQuai a
  · exact .inl ⟨rfl, rfl⟩
  · exact .inr ⟨rfl, rfl⟩

theorem C16_zone_unique (a : Bytes) (l₁ l₂ : Location) (h₁ : zoneOf a = l₁) (h₂ : zoneOf a = l₂) : l₁ = l₂ :=
  h₁ ▸ h₂ ▸ rfl

theorem fit_of_le {n : Nat} {b : Bytes} (h : b.length ≤ n) :
    fit n b = List.replicate (n - b.length) 0 ++ b := if_neg (Nat.not_lt.mpr h)

theorem fit_id (n : Nat) (b : Bytes) (h : b.length = n) : fit n b = b := by
  rw [fit_of_le (Nat.le_of_eq h), h, Nat.sub_self]; rfl

theorem fit_inj {n : Nat} {b c : Bytes} (hb : b.length ≤ n) (hc : c.length = b.length)
    (h : fit n b = fit n c) : b = c := by
  rw [fit_of_le hb, fit_of_le (hc ▸ hb), hc] at h
  exact List.append_cancel_left h

theorem context_eq_two_iff {l : Location} : context l = 2 ↔ 2 ≤ l.length := by
  by_cases h : 2 ≤ l.length
  · exact iff_of_true (if_pos h) h
  · rw [context, if_neg h]
    exact iff_of_false (by split <;> decide) h

/-- A zone location `[r, z]` with `r, z < 16` is recovered from the prefix byte: an address whose
first byte is the node's prefix lies in exactly that zone. -/
theorem C16_zone_of_prefix (r z : Nat) (hr : r < 16) (hz : z < 16) (a : Bytes) (h : a.getD 0 0 = bytePrefix [r, z]) :
    zoneOf a = [r, z] := by
  have h1 : (r * 16 + z) % 256 = 16 * r + z := Nat.mul_comm .. ▸ Nat.mod_eq_of_lt (by omega)
  rw [zoneOf, h, bytePrefix, List.getD_cons_zero, List.getD_cons_succ, List.getD_cons_zero, h1,
    Nat.mul_add_div (by decide), Nat.mul_add_mod, Nat.div_eq_of_lt hz, Nat.mod_eq_of_lt hz, Nat.add_zero]

/-! ### (2) every location-taking constructor classifies a 20-byte address identically -/

/-- `BytesToAddress`, `Bytes20ToAddress`, `HexToAddress`, `ProtoDecode`, `Scan`, `PubkeyToAddress`,
`CreateAddress(2)` all reduce to `bytesToAddress` of the 20 decoded bytes. -/
theorem C16_constructors_agree (b : Bytes) (l : Location) (h : b.length = 20) :
    (bytesToAddress b l).kind = classify b l ∧ (bytesToAddress b l).bytes = b :=
  ⟨rfl, fit_id addressLength b h⟩

/-- For a zone node, an in-scope 20-byte address starts with the node's prefix byte. -/
theorem C16_internal_iff_prefix (b : Bytes) (l : Location) (h : b.length = 20) (hl : l.length = 2) :
    isInChainScope b l = true ↔ b.getD 0 0 = bytePrefix l := by
  match b, h with
  | x :: t, h =>
    have hctx : context l = 2 := context_eq_two_iff.mpr (Nat.le_of_eq hl.symm)
    rw [isInChainScope, if_neg (not_not_intro hctx), List.getD_cons_zero]
    by_cases hz : fit hashLength (x :: t) = zeroAddrHash l
    · rw [if_pos hz]
      -- `x :: t` is the zero address of the zone, which starts with the prefix
      have := fit_inj (by rw [h]; decide) (by simp [h]) hz
      exact iff_of_true rfl (List.cons.inj this).1
    · rw [if_neg hz]
      exact beq_iff_eq

theorem isInChainScope_not_zone (b : Bytes) {l : Location} (h : l.length < 2) : isInChainScope b l = false := by
  unfold isInChainScope
  exact if_pos (mt context_eq_two_iff.mp (Nat.not_le.mpr h))

/-- no region or prime node ever treats an address as internal -/
theorem C16_only_zones_have_internal (b : Bytes) (l : Location) (h : l.length < 2) :
    (bytesToAddress b l).kind = .external := by
  rw [bytesToAddress, isInChainScope_not_zone b h]
  rfl

/-- The location-free decoders (RLP / JSON / text) classify for node `[0,0]`; for any other zone
they disagree with the node's own classification on that zone's addresses (recorded finding F-C16-1):
concrete witness. -/
theorem C16_counterexample_decoders_fixed_location :
    let a : Bytes := 1 :: 2 :: List.replicate 18 7
    (bytesToAddress a [0, 1]).kind = .internal ∧ (decodeNoLoc a).kind = .external := by decide

/-- and a non-20-byte input is tested on its *uncropped* first byte (finding F-C16-2): witness -/
theorem C16_counterexample_uncropped_scope_test :
    let b : Bytes := 1 :: 0 :: 5 :: List.replicate 18 0      -- 21 bytes
    (bytesToAddress b [0, 1]).kind = .internal ∧ zoneOf (bytesToAddress b [0, 1]).bytes = [0, 0] := by decide

/-! ### (3) account-state invariant -/

def AcctInv (accts : List Bytes) (l : Location) : Prop :=
  ∀ a ∈ accts, isInChainScope a l = true ∧ isQuai a = true

theorem inv_createObject (accts : List Bytes) (a : Bytes) (l : Location) (h : AcctInv accts l) :
    AcctInv (createObject accts a l) l := by
  unfold createObject
  split
  · next g =>
    split
    · exact h
    · intro x hx
      rcases List.mem_cons.mp hx with rfl | hx
      · exact Bool.and_eq_true_iff.mp g
      · exact h x hx
  · exact h

/-- **C16(3)** starting from the empty account set, after any sequence of account creations with
arbitrary (adversarial) addresses the state holds only in-zone Quai-ledger accounts. -/
theorem C16_state_scope_invariant (l : Location) (ops : List Bytes) :
    AcctInv (ops.foldl (fun s a => createObject s a l) []) l :=
  List.foldlRecOn ops _ (fun _ h => nomatch h) fun s hs a _ => inv_createObject s a l hs

/-! ### (4) Qi outputs only for in-zone Qi-ledger 20-byte addresses (the guard) -/

theorem C16_utxo_guard (b : Bytes) (l : Location) (h : checkBytesInternalAndQi b l = true) :
    b.length = 20 ∧ isInChainScope b l = true ∧ isQi b = true := by
  rw [checkBytesInternalAndQi, Bool.and_eq_true, Bool.and_eq_true, beq_iff_eq, ← isQi_eq_not_isQuai] at h
  exact ⟨h.1.1, h.1.2, h.2⟩

/-! ### (5) contract creation yields an in-zone Quai address or fails -/

theorem internalAndQuai_bytesToAddress (c : Bytes) (l : Location) :
    internalAndQuai (bytesToAddress c l) = true ↔ isQuai (setBytes c) = true ∧ isInChainScope c l = true := by
  unfold internalAndQuai bytesToAddress
  cases isInChainScope c l <;> simp

theorem grind_sound {l : Location} {gasCost n gas : Nat} {cs : List Bytes} {a : Bytes} {g : Nat}
    (h : grind l gasCost n gas cs = some (a, g)) :
    isQuai a = true ∧ g ≤ gas ∧ ∃ c ∈ cs, a = setBytes c ∧ isInChainScope c l = true := by
  fun_induction grind l gasCost n gas cs with
  | case1 | case2 | case3 => cases h
  | case4 n gas c cs _ _ hq =>
    cases h
    obtain ⟨h1, h2⟩ := (internalAndQuai_bytesToAddress c l).mp hq
    exact ⟨h1, Nat.sub_le .., c, List.mem_cons_self, rfl, h2⟩
  | case5 n gas c cs _ _ _ ih =>
    obtain ⟨h1, h2, c', hc', h3⟩ := ih h
    exact ⟨h1, Nat.le_trans h2 (Nat.sub_le ..), c', List.mem_cons_of_mem _ hc', h3⟩

/-- **C16(5)** `Create` returns an address only if it is a Quai-ledger address derived from a
candidate that is in the node's scope; otherwise it fails (`none`). -/
theorem C16_create_in_zone_quai (l : Location) (first : Bytes) (gasCost maxA gas : Nat) (cs : List Bytes)
    (a : Bytes) (g : Nat) (h : createAddr l first gasCost maxA gas cs = some (a, g)) :
    isQuai a = true ∧ g ≤ gas ∧ ∃ c ∈ first :: cs, a = setBytes c ∧ isInChainScope c l = true := by
  simp only [createAddr] at h
  split at h
  · next hq =>
    cases h
    obtain ⟨h1, h2⟩ := (internalAndQuai_bytesToAddress first l).mp hq
    exact ⟨h1, Nat.le_refl _, first, List.mem_cons_self, rfl, h2⟩
  · obtain ⟨h1, h2, c, hc, h3⟩ := grind_sound h
    exact ⟨h1, h2, c, List.mem_cons_of_mem _ hc, h3⟩

/-! ### Non-vacuity -/
example : (bytesToAddress (1 :: 2 :: List.replicate 18 7) [0, 1]).kind = .internal := by decide
example : createObjectGuard (0 :: 5 :: List.replicate 18 1) [0, 0] = true := by decide
example : grind [0, 0] 10 3 100 [1 :: List.replicate 19 0, 0 :: 200 :: List.replicate 18 0, 0 :: 5 :: List.replicate 18 9]
    = some (0 :: 5 :: List.replicate 18 9, 70) := by decide

/-! ### Routing down the hierarchy keeps ETXs inside the addressed chain -/

theorem keepForSub_region (slice : Location) (order : Nat) (e : Bytes × Nat) :
    keepForSub slice 1 order e = true ↔ zoneOf e.1 = slice ∧ (order = 0 ∨ (e.2 ≠ 1 ∧ e.2 ≠ 2)) := by
  simp [keepForSub]

/-- **C16 (a region hands a zone only what is addressed to that zone).** Every ETX a region passes down to a zone has
that zone's prefix - region and zone nibble - so nothing addressed to another region's zone of the same number gets in. -/
theorem C16_region_hands_down_only_own_zone (slice : Location) (order : Nat) (l : List (Bytes × Nat)) :
    ∀ e ∈ filterToSub slice 1 order l, zoneOf e.1 = slice :=
  fun e he => ((keepForSub_region slice order e).mp (List.mem_filter.mp he).2).1

/-- **C16 (prime hands a region only what is addressed into that region).** -/
theorem C16_prime_hands_down_only_own_region (slice : Location) (order : Nat) (l : List (Bytes × Nat)) :
    ∀ e ∈ filterToSub slice 0 order l, (zoneOf e.1).getD 0 0 = slice.getD 0 0 :=
  fun e he =>
    have h : ((zoneOf e.1).getD 0 0 == slice.getD 0 0) = true := (List.mem_filter.mp he).2
    eq_of_beq h

/-- **C16 (no ETX is handed to two zones).** -/
theorem C16_no_etx_to_two_zones (s₁ s₂ : Location) (order : Nat) (l : List (Bytes × Nat)) (hne : s₁ ≠ s₂) :
    ∀ e ∈ filterToSub s₁ 1 order l, e ∉ filterToSub s₂ 1 order l := by
  intro e h1 h2
  have a := C16_region_hands_down_only_own_zone s₁ order l e h1
  have b := C16_region_hands_down_only_own_zone s₂ order l e h2
  exact hne (a.symm.trans b)

/-- at a prime-order block a region hands a zone everything addressed to it -/
theorem C16_region_hands_down_everything_addressed (slice : Location) (l : List (Bytes × Nat)) (e : Bytes × Nat)
    (he : e ∈ l) (hz : zoneOf e.1 = slice) : e ∈ filterToSub slice 1 0 l :=
  List.mem_filter.mpr ⟨he, (keepForSub_region slice 0 e).mpr ⟨hz, .inl rfl⟩⟩

example : filterToSub [0, 2] 1 1 [([0x02, 1], 0), ([0x12, 1], 0), ([0x02, 1], 2)] = [([0x02, 1], 0)] := by decide

end QuaiVerif.Addr
