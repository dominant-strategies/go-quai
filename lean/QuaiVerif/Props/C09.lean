import QuaiVerif.Model.HeaderRules
import QuaiVerif.Gen.Validator
import QuaiVerif.Lemmas.Arith
/-
C09: accepted headers extend their parent by the protocol's rules.  Proved on the model: accumulated entropy grows
by exactly the block's own entropy whichever order the block has (so it strictly increases along every chain once
the own entropy is positive, which a valid seal at difficulty >= 2 guarantees); difficulty retargeting never drops
below the floor, stays put at the target block time and is monotone in the observed block time; the limit ramp; the
conversion-flow average stays within its clamps, is steady under a steady flow and monotone in the block's own amount.
T1: the regenerated list of header fields compared in verifyHeader covers every derived field.  T2 (area c09): the
formulas are run against CalcDifficulty / CalcGasLimit / CalcStateLimit / TotalLogEntropy / DeltaLogEntropy /
CalcOrder on the headers of real chains; T3: single-field deviations of valid children are rejected, CalcOrder and
the entropy functions are stable across repeated and cold calls.
-/
namespace QuaiVerif.HeaderRules

/-- The recorded fields are the running totals: under this the three formulas of `total` agree (`total_of_inv`). -/
def AccInv (a : Acc) : Prop := a.T = a.tR + a.dZ ∧ a.tR = a.tP + a.dR

theorem accInv_genesis : AccInv Acc.genesis := ⟨rfl, rfl⟩

theorem total_of_inv (a : Acc) (h : AccInv a) (o : Nat) (s : Int) : total o a.tP a.tR a.T a.dR a.dZ s = a.T + s := by
  obtain ⟨h1, h2⟩ := h
  unfold total
  split
  · rw [h1, h2, Int.add_assoc a.tP]
  · rw [h1]
  · rfl

/-- Whatever its hierarchical order, a block's accumulated entropy is its parent's plus its own. -/
theorem C09_entropy_grows_by_own (a : Acc) (h : AccInv a) (o : Nat) (s : Int) :
    (next a o s).T = a.T + s ∧ AccInv (next a o s) := by
  have ht := total_of_inv a h o s
  obtain ⟨h1, h2⟩ := h
  unfold next
  simp only [ht]
  split
  · exact ⟨rfl, (Int.add_zero _).symm, (Int.add_zero _).symm⟩
  · exact ⟨rfl, (Int.add_zero _).symm, by simp only [delta, h1, h2, Int.add_assoc]⟩
  · exact ⟨rfl, by simp only [delta, h1, Int.add_assoc], h2⟩

/-- Accumulated entropy strictly increases along every chain (any mix of zone / region / prime blocks). -/
theorem C09_entropy_strictly_increases (a : Acc) (h : AccInv a) (blocks : List (Nat × Int))
    (hpos : ∀ b ∈ blocks, 0 < b.2) (hne : blocks ≠ []) : a.T < (runChain a blocks).T ∧ AccInv (runChain a blocks) := by
  induction blocks generalizing a with
  | nil => exact absurd rfl hne
  | cons b rest ih =>
    obtain ⟨o, s⟩ := b
    have hs : 0 < s := hpos (o, s) List.mem_cons_self
    obtain ⟨h1, h2⟩ := C09_entropy_grows_by_own a h o s
    have hstep : a.T < (next a o s).T := h1 ▸ Int.lt_add_of_pos_right _ hs
    cases rest with
    | nil => exact ⟨hstep, h2⟩
    | cons c rest' =>
      obtain ⟨h3, h4⟩ := ih (next a o s) h2 (fun b hb => hpos b (List.mem_cons_of_mem _ hb)) (List.cons_ne_nil _ _)
      exact ⟨Int.lt_trans hstep h3, h4⟩

/-- A seal valid at difficulty `diff` has at least `log2 diff` whole bits of entropy (`N` is 2^256). -/
theorem log2_le_log2_div {N hash diff : Nat} (hd : diff ≠ 0) (hpos : 0 < hash) (hseal : hash ≤ N / diff) :
    diff.log2 ≤ (N / hash).log2 := by
  have h1 : diff * hash ≤ N := Nat.le_trans (Nat.mul_le_mul_left _ hseal) (Nat.mul_div_le ..)
  have h2 : diff ≤ N / hash := (Nat.le_div_iff_mul_le hpos).mpr h1
  exact (Nat.le_log2 (Nat.ne_of_gt (Nat.lt_of_lt_of_le (Nat.pos_of_ne_zero hd) h2))).mpr
    (Nat.le_trans (Nat.log2_self_le hd) h2)

/-- The own entropy of a valid seal is positive: hash <= 2^256 / difficulty with difficulty >= 2 gives
floor(log2(2^256 / hash)) >= 1, i.e. at least one full bit (2^64 in fixed point), whatever the mantissa. -/
theorem C09_valid_seal_has_positive_entropy (hash diff mant : Nat) (hd : 2 ≤ diff) (hpos : 0 < hash)
    (hseal : hash ≤ 2 ^ 256 / diff) : 0 < (2 ^ 256 / hash).log2 * 2 ^ 64 + mant := by
  have hd0 : diff ≠ 0 := Nat.ne_of_gt (Nat.lt_of_lt_of_le (by decide) hd)
  have h1 : 1 ≤ (2 ^ 256 / hash).log2 := Nat.le_trans ((Nat.le_log2 hd0).mpr hd) (log2_le_log2_div hd0 hpos hseal)
  exact Nat.lt_of_lt_of_le (Nat.mul_pos h1 (Nat.two_pow_pos 64)) (Nat.le_add_right ..)

theorem clamp_eq_min (p : DiffParams) (dt : Int) : clamp p dt = min dt p.maxTimeDiff := by
  simp only [clamp, Int.min_def, ← Int.not_le, ite_not]

theorem calcDifficulty_eq_max (p : DiffParams) (parentDiff : Nat) (dt : Int) :
    calcDifficulty p parentDiff dt = max p.minDifficulty (adjust p parentDiff (clamp p dt) + parentDiff) := by
  simp only [calcDifficulty, Int.max_def, ← Int.not_le, ite_not]

theorem C09_difficulty_floor (p : DiffParams) (parentDiff : Nat) (dt : Int) :
    p.minDifficulty ≤ calcDifficulty p parentDiff dt :=
  calcDifficulty_eq_max .. ▸ Int.le_max_left ..

/-- At the target block time the difficulty stays what it was (or the floor). -/
theorem C09_difficulty_steady_at_target (p : DiffParams) (parentDiff : Nat) (h : p.durationLimit ≤ p.maxTimeDiff) :
    calcDifficulty p parentDiff p.durationLimit = if (parentDiff : Int) < p.minDifficulty then p.minDifficulty else parentDiff := by
  have ha : adjust p parentDiff p.durationLimit = 0 := by simp [adjust]
  rw [calcDifficulty, clamp_eq_min, Int.min_eq_left h, ha, Int.zero_add]

/-- A slower parent block never yields a higher difficulty. -/
theorem C09_difficulty_monotone_in_time (p : DiffParams) (parentDiff : Nat) (dt1 dt2 : Int) (h : dt1 ≤ dt2)
    (hd : 0 < p.durationLimit) (hf : 0 < p.adjFactor) (hp : 0 < p.adjPeriod) :
    calcDifficulty p parentDiff dt2 ≤ calcDifficulty p parentDiff dt1 := by
  have hcl : clamp p dt1 ≤ clamp p dt2 := by
    rw [clamp_eq_min, clamp_eq_min]
    exact min_le_min_right _ h
  have key : adjust p parentDiff (clamp p dt2) ≤ adjust p parentDiff (clamp p dt1) :=
    Int.ediv_le_ediv hp <| Int.ediv_le_ediv hf <| Int.ediv_le_ediv hd <|
      Int.mul_le_mul_of_nonneg_right (Int.mul_le_mul_of_nonneg_right (Int.sub_le_sub_left hcl _) (Int.natCast_nonneg _))
        (Int.natCast_nonneg _)
  rw [calcDifficulty_eq_max, calcDifficulty_eq_max]
  exact max_le_max_left _ (Int.add_le_add_right key _)

theorem C09_limit_zero_before_start (ttx minL bpm ceil pn pl : Nat) (h : pn < ttx) : calcLimit ttx minL bpm ceil pn pl = 0 :=
  if_pos h

theorem C09_limit_at_least_min_after_start (ttx minL bpm ceil pn pl : Nat) (h : ttx ≤ pn) (hc : minL ≤ ceil) :
    minL ≤ calcLimit ttx minL bpm ceil pn pl := by
  unfold calcLimit
  rw [if_neg (Nat.not_lt.mpr h)]
  -- every remaining leaf of the chain is at least `minL`
  refine iteInduction (fun _ => Nat.le_refl _) fun _ => iteInduction (fun _ => ?_) fun _ => hc
  exact iteInduction (fun _ => Nat.le_refl _) Nat.not_lt.mp

-- T1: every derived header field is compared in verifyHeader
def derivedFields : List String :=
  ["Time", "Difficulty", "ParentEntropy", "ParentDeltaEntropy", "ParentUncledDeltaEntropy", "ExpansionNumber", "GasLimit", "GasUsed",
   "StateLimit", "StateUsed", "BaseFee", "PrimeTerminusHash", "PrimeTerminusNumber", "ShaDiffAndCount", "ScryptDiffAndCount",
   "ShaShareTarget", "ScryptShareTarget", "KawpowDifficulty", "Number", "HeaderHash", "Location"]

theorem C09_every_derived_field_is_compared :
    derivedFields.all (fun f => Gen.verifyHeaderCompares.contains f) = true := by decide +kernel

/-- Non-vacuity of the chain theorem: a chain with zone, region and prime blocks. -/
example : (runChain Acc.genesis [(2, 5), (2, 7), (1, 3), (2, 4), (0, 9), (2, 1)]).T = 29 := by decide

/-- With the floor not above the cap (`minFlow ≤ 2·prev`) the flow amount is the average clamped into `[minFlow, 2·prev]`. -/
theorem flowAmount_eq_clamp {prev cur w minFlow : Nat} (hm : minFlow ≤ 2 * prev) :
    flowAmount prev cur w minFlow = max minFlow (min ((prev * (w - 1) + cur) / w) (2 * prev)) := by
  simp only [flowAmount, Nat.max_def, Nat.min_def, ← Nat.not_le, ite_not]
  -- left the floor is tested first, right the cap: under the cap they read the same, above it both give the cap
  by_cases h : (prev * (w - 1) + cur) / w ≤ 2 * prev
  · rw [if_pos h]
  · rw [if_neg h, if_pos hm, if_pos (Nat.le_trans hm (Nat.le_of_not_le h))]

/-- the conversion flow amount stays within its two clamps -/
theorem C09_flow_amount_bounded (prev cur w minFlow : Nat) :
    flowAmount prev cur w minFlow ≤ max minFlow (2 * prev) ∧
    (minFlow ≤ 2 * prev → minFlow ≤ flowAmount prev cur w minFlow) := by
  refine ⟨?_, fun hm => flowAmount_eq_clamp hm ▸ Nat.le_max_left ..⟩
  unfold flowAmount
  dsimp only
  split
  · exact Nat.le_max_left ..
  · split
    · exact Nat.le_max_right ..
    · next h => exact Nat.le_trans (Nat.not_lt.mp h) (Nat.le_max_right ..)

/-- a steady flow keeps the average where it is -/
theorem C09_flow_amount_steady (prev w minFlow : Nat) (hw : 0 < w) (hm : minFlow ≤ prev) :
    flowAmount prev prev w minFlow = prev := by
  have : (prev * (w - 1) + prev) / w = prev := by
    rw [← Nat.mul_succ, Nat.succ_eq_add_one, Nat.sub_add_cancel hw, Nat.mul_div_cancel _ hw]
  have h2 : prev ≤ 2 * prev := Nat.le_mul_of_pos_left _ (by decide)
  rw [flowAmount_eq_clamp (Nat.le_trans hm h2), this, Nat.min_eq_left h2, Nat.max_eq_right hm]

/-- the average moves with the block's own conversion amount (as long as the floor is not above the cap, which holds
whenever the previous amount is itself at least the floor) -/
theorem C09_flow_amount_monotone (prev c1 c2 w minFlow : Nat) (h : c1 ≤ c2) (hm : minFlow ≤ 2 * prev) :
    flowAmount prev c1 w minFlow ≤ flowAmount prev c2 w minFlow := by
  rw [flowAmount_eq_clamp hm, flowAmount_eq_clamp hm]
  exact max_le_max_left _ (min_le_min_right _ (Nat.div_le_div_right (Nat.add_le_add_left h _)))

example : flowAmount 1000 4000 4 100 = 1750 ∧ flowAmount 1000 40000 4 100 = 2000 ∧ flowAmount 1000 0 4 900 = 900 ∧
          baseFee 2553 1 5 21000 = 0 ∧ baseFee 2553000000 1 5 21000 = 607857 := by decide

end QuaiVerif.HeaderRules
