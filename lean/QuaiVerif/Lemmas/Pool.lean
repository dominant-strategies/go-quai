import QuaiVerif.Model.Pool
/-
What each primitive of the pool model does to the lists it is given, in the terms the C19 invariants need: which
transactions are held afterwards (a sublist, a permutation, a count per nonce) and in what order (`Contig`).
`addNoPromote` and `add` are described once, by outcome; no later proof unfolds them.
-/
namespace QuaiVerif.Pool

/-- number of held transactions with nonce `n` -/
def cnt (n : Nat) (l : List Tx) : Nat := l.countP (·.nonce == n)

def Uniq (a : Acct) : Prop := ∀ n, cnt n (a.pending ++ a.queue) ≤ 1

theorem cnt_append (n : Nat) (a b : List Tx) : cnt n (a ++ b) = cnt n a + cnt n b := List.countP_append

theorem cnt_cons (n : Nat) (t : Tx) (l : List Tx) : cnt n (t :: l) = cnt n l + if t.nonce = n then 1 else 0 := by
  simp [cnt, List.countP_cons]

theorem cnt_le_of_sublist (n : Nat) {l₁ l₂ : List Tx} (h : l₁.Sublist l₂) : cnt n l₁ ≤ cnt n l₂ := h.countP_le

theorem cnt_eq_of_perm (n : Nat) {l₁ l₂ : List Tx} (h : l₁.Perm l₂) : cnt n l₁ = cnt n l₂ := h.countP_eq _

theorem getNonce_some {l : List Tx} {n : Nat} {t : Tx} (h : getNonce l n = some t) : t.nonce = n ∧ t ∈ l :=
  ⟨beq_iff_eq.mp (List.find?_some (p := fun x : Tx => x.nonce == n) h), List.mem_of_find?_eq_some h⟩

theorem cnt_zero_of_getNonce_none {l : List Tx} {n : Nat} (h : getNonce l n = none) : cnt n l = 0 :=
  List.countP_eq_zero.mpr (List.find?_eq_none.mp h)

theorem cnt_pos_of_getNonce_some {l : List Tx} {n : Nat} {t : Tx} (h : getNonce l n = some t) : 1 ≤ cnt n l :=
  List.countP_pos_iff.mpr ⟨t, (getNonce_some h).2, beq_iff_eq.mpr (getNonce_some h).1⟩

theorem cnt_replaceIn (n : Nat) (l : List Tx) (t : Tx) : cnt n (replaceIn l t) = cnt n l := by
  unfold cnt replaceIn
  rw [List.countP_map]
  refine List.countP_congr fun x _ => ?_
  by_cases h : x.nonce = t.nonce <;> simp [h]

theorem contig_replaceIn {s : Nat} {p : List Tx} (t : Tx) (h : Contig s p) : Contig s (replaceIn p t) := by
  induction p generalizing s with
  | nil => trivial
  | cons x rest ih =>
    refine ⟨?_, ih h.2⟩
    show (if x.nonce = t.nonce then t else x).nonce = s
    split
    · next e => exact e ▸ h.1
    · exact h.1

theorem contig_append {s : Nat} {p : List Tx} {t : Tx} (h : Contig s p) (ht : t.nonce = s + p.length) : Contig s (p ++ [t]) := by
  induction p generalizing s with
  | nil => exact ⟨ht, trivial⟩
  | cons x rest ih => exact ⟨h.1, ih h.2 (ht.trans (Nat.add_right_comm s rest.length 1))⟩

theorem contig_takeReady {fuel s : Nat} {p q : List Tx} (h : Contig s p) :
    Contig s (takeReady fuel p q (s + p.length)).1 := by
  induction fuel generalizing p q with
  | zero => exact h
  | succ f ih =>
    unfold takeReady
    split
    · next t hg =>
      have := ih (q := q.filter (·.nonce != s + p.length)) (contig_append h (getNonce_some hg).1)
      simpa [Nat.add_assoc] using this
    · exact h

/-- takeReady never increases the number of holders of a nonce: the entry it moves was counted in the queue, and every
queue entry of that nonce goes. -/
theorem cnt_takeReady (n : Nat) {fuel : Nat} {p q : List Tx} {s : Nat} :
    cnt n ((takeReady fuel p q s).1 ++ (takeReady fuel p q s).2) ≤ cnt n (p ++ q) := by
  induction fuel generalizing p q s with
  | zero => exact Nat.le_refl _
  | succ f ih =>
    unfold takeReady
    split
    · next t hg =>
      refine Nat.le_trans ih ?_
      rw [cnt_append, cnt_append, cnt_append, cnt_cons, (getNonce_some hg).1]
      split
      · next e =>
        have h0 : cnt n (q.filter (·.nonce != s)) = 0 := List.countP_eq_zero.mpr fun x hx => by
          simpa [e] using (List.mem_filter.mp hx).2
        have h1 := cnt_pos_of_getNonce_some hg
        rw [e] at h1; rw [h0]; exact Nat.add_le_add_left h1 _
      · exact Nat.add_le_add_left (cnt_le_of_sublist n List.filter_sublist) _
    · exact Nat.le_refl _

theorem contig_promote {a : Acct} (h : Contig a.stateNonce a.pending) : Contig (promote a).stateNonce (promote a).pending :=
  contig_takeReady h

theorem uniq_promote {a : Acct} (h : Uniq a) : Uniq (promote a) := by
  intro n
  refine Nat.le_trans (cnt_takeReady n) (Nat.le_trans ?_ (h n))
  rw [cnt_append, cnt_append]
  exact Nat.add_le_add_left (cnt_le_of_sublist n (List.filter_sublist.trans List.filter_sublist)) _

theorem replaceOK_iff {bump : Nat} {old new : Tx} :
    replaceOK bump old new = true ↔ old.price < new.price ∧ old.price * (100 + bump) / 100 ≤ new.price := by
  simp [replaceOK]

inductive AddOutcome (bump : Nat) (a : Acct) (t : Tx) : Acct × AddResult → Prop
  | rejected (r : AddResult) : r ≠ .ok → r ≠ .replaced → AddOutcome bump a t (a, r)
  | replacedPending (old : Tx) : getNonce a.pending t.nonce = some old → replaceOK bump old t = true →
      AddOutcome bump a t ({ a with pending := replaceIn a.pending t }, .replaced)
  | replacedQueue (old : Tx) : getNonce a.pending t.nonce = none → getNonce a.queue t.nonce = some old →
      replaceOK bump old t = true → AddOutcome bump a t ({ a with queue := replaceIn a.queue t }, .replaced)
  | fresh : getNonce a.pending t.nonce = none → getNonce a.queue t.nonce = none →
      AddOutcome bump a t ({ a with queue := t :: a.queue }, .ok)

theorem addNoPromote_outcome (bump : Nat) (a : Acct) (t : Tx) : AddOutcome bump a t (addNoPromote bump a t) := by
  unfold addNoPromote
  -- `split` on the three validation guards would cost six times the rest of the proof
  refine iteInduction (fun _ => .rejected _ nofun nofun) fun _ => iteInduction (fun _ => .rejected _ nofun nofun) fun _ =>
    iteInduction (fun _ => .rejected _ nofun nofun) fun _ => ?_
  split
  · next old hp => exact iteInduction (.replacedPending old hp) fun _ => .rejected _ nofun nofun
  · next hp =>
    split
    · next old hq => exact iteInduction (.replacedQueue old hp hq) fun _ => .rejected _ nofun nofun
    · next hq => exact .fresh hp hq

theorem add_snd (bump : Nat) (a : Acct) (t : Tx) : (add bump a t).2 = (addNoPromote bump a t).2 := by
  unfold add
  generalize addNoPromote bump a t = r
  obtain ⟨a', r⟩ := r
  cases r <;> rfl

theorem add_fst (bump : Nat) (a : Acct) (t : Tx) :
    (add bump a t).1 = if (addNoPromote bump a t).2 = .ok ∨ (addNoPromote bump a t).2 = .replaced
      then promote (addNoPromote bump a t).1 else (addNoPromote bump a t).1 := by
  unfold add
  generalize addNoPromote bump a t = r
  obtain ⟨a', r⟩ := r
  cases r <;> rfl

theorem add_induction {P : Acct → Prop} {bump : Nat} {a : Acct} {t : Tx} (hadd : P (addNoPromote bump a t).1)
    (hpro : ∀ {a}, P a → P (promote a)) : P (add bump a t).1 := by
  rw [add_fst]
  split
  · exact hpro hadd
  · exact hadd

theorem addNoPromote_stateNonce (bump : Nat) (a : Acct) (t : Tx) : (addNoPromote bump a t).1.stateNonce = a.stateNonce := by
  have o := addNoPromote_outcome bump a t
  generalize addNoPromote bump a t = r at o ⊢
  cases o <;> rfl

theorem contig_addNoPromote (bump : Nat) {a : Acct} (t : Tx) (h : Contig a.stateNonce a.pending) :
    Contig (addNoPromote bump a t).1.stateNonce (addNoPromote bump a t).1.pending := by
  have o := addNoPromote_outcome bump a t
  generalize addNoPromote bump a t = r at o ⊢
  cases o with
  | replacedPending => exact contig_replaceIn t h
  | _ => exact h

theorem uniq_addNoPromote (bump : Nat) {a : Acct} (t : Tx) (h : Uniq a) : Uniq (addNoPromote bump a t).1 := by
  intro n
  have := h n
  have o := addNoPromote_outcome bump a t
  generalize addNoPromote bump a t = r at o ⊢
  cases o with
  | rejected => exact this
  | replacedPending | replacedQueue => simpa only [cnt_append, cnt_replaceIn] using this
  | fresh hp hq =>
    rw [cnt_append, cnt_cons] at *
    split
    · next e => rw [← e, cnt_zero_of_getNonce_none hp, cnt_zero_of_getNonce_none hq]; exact Nat.le_refl _
    · exact this

theorem insertSorted_perm (t : Tx) (l : List Tx) : (insertSorted t l).Perm (t :: l) := by
  induction l with
  | nil => exact .refl _
  | cons x rest ih =>
    unfold insertSorted
    split
    · exact .refl _
    · exact (ih.cons x).trans (.swap _ _ _)

theorem sortByNonce_perm (l : List Tx) : (sortByNonce l).Perm l := by
  induction l with
  | nil => exact .refl _
  | cons x rest ih => exact (insertSorted_perm x _).trans (ih.cons x)

theorem filterStrict_sublist (bal : Nat) (l : List Tx) : ((filterStrict bal l).1 ++ (filterStrict bal l).2).Sublist l := by
  induction l with
  | nil => exact .slnil
  | cons x rest ih =>
    unfold filterStrict
    split
    · exact ih.cons_cons x
    · exact .cons x List.filter_sublist

theorem filterStrict_affordable (bal : Nat) (l : List Tx) : ∀ t ∈ (filterStrict bal l).1, t.cost ≤ bal := by
  induction l with
  | nil => exact fun _ h => nomatch h
  | cons x rest ih =>
    unfold filterStrict
    split
    · next hx => exact List.forall_mem_cons.mpr ⟨hx, ih⟩
    · exact fun _ h => nomatch h

theorem takeContig_append (n : Nat) (l : List Tx) : (takeContig n l).1 ++ (takeContig n l).2 = l := by
  induction l generalizing n with
  | nil => rfl
  | cons x rest ih =>
    unfold takeContig
    split
    · exact congrArg (x :: ·) (ih _)
    · rfl

theorem mem_takeContig {n : Nat} {l : List Tx} {t : Tx} (h : t ∈ (takeContig n l).1) : t ∈ l :=
  takeContig_append n l ▸ List.mem_append_left _ h

theorem contig_takeContig (n : Nat) (l : List Tx) : Contig n (takeContig n l).1 := by
  induction l generalizing n with
  | nil => trivial
  | cons t rest ih =>
    unfold takeContig
    split
    · next e => exact ⟨e, ih (n + 1)⟩
    · trivial

/-- The pending list after a head change: the contiguous run of the strictly filtered, not stale entries of some list
(what was pending or got promoted, sorted). -/
theorem reset_pending (bump : Nat) (a : Acct) (n b : Nat) (re : List Tx) :
    ∃ l : List Tx, (reset bump a n b re).pending = (takeContig n (filterStrict b (l.filter fun t => n ≤ t.nonce)).1).1 :=
  ⟨_, rfl⟩

/-- After re-injection (`a1`) a head change only moves and drops: no nonce is held more often afterwards. -/
theorem cnt_reset_le (bump : Nat) (a : Acct) (n b : Nat) (re : List Tx) (m : Nat) :
    let a1 := re.foldl (fun acc t => (addNoPromote bump acc t).1) { a with stateNonce := n, balance := b }
    cnt m ((reset bump a n b re).pending ++ (reset bump a n b re).queue) ≤ cnt m (a1.pending ++ a1.queue) := by
  unfold reset
  extract_lets _ a0 a1 q r p2 p3 f c
  show _ ≤ cnt m (a1.pending ++ a1.queue)
  -- as in `reset`: `r` the promoted run and the rest of the queue, `f` the strict filter, `c` its contiguous run
  have hr : cnt m (r.1 ++ r.2) ≤ cnt m a1.queue :=
    Nat.le_trans (cnt_takeReady m) (cnt_le_of_sublist m (List.filter_sublist.trans List.filter_sublist))
  have hf : cnt m (f.1 ++ f.2) ≤ cnt m (a1.pending ++ r.1) :=
    Nat.le_trans (cnt_le_of_sublist m ((filterStrict_sublist b p3).trans List.filter_sublist))
      (Nat.le_of_eq (cnt_eq_of_perm m (sortByNonce_perm _)))
  have hc : cnt m (c.1 ++ c.2) = cnt m f.1 := congrArg (cnt m) (takeContig_append n f.1)
  simp only [cnt_append] at *
  omega

end QuaiVerif.Pool
