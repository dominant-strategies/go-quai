import QuaiVerif.Lemmas.Trie
/- Canonical form of the trie model (C18), and that a canonical trie is determined by its content: where two of its
keys first part ways (`Forks`) tells the form of the root node and its stem, and so on down the tree. -/
namespace QuaiVerif.Trie

def IsFull : Node → Prop
  | .full _ => True
  | _ => False

/-- canonical subtrie for terminated keys: as `WF`, and in addition an extension's child is a branch, a branch has at
least two children, and nothing hangs beyond index 16 -/
inductive Canon : Node → Prop where
  | nil : Canon .nil
  | leaf (b : List Nat) (v : Bytes) : Nib b → Canon (.short (b ++ [16]) (.value v))
  | ext (k : List Nat) (c : Node) : Nib k → k ≠ [] → IsFull c → Canon c → Canon (.short k c)
  | full (cs : Nat → Node) : (∀ i, i < 16 → Canon (cs i)) → (∀ i, i < 16 → NotValue (cs i)) →
      (cs 16 = .nil ∨ ∃ v, cs 16 = .value v) → (∀ i, 16 < i → cs i = .nil) →
      (∃ i j, i < 17 ∧ j < 17 ∧ i ≠ j ∧ cs i ≠ .nil ∧ cs j ≠ .nil) → Canon (.full cs)

/-- `q` is one of the keys of `t` -/
def Holds (t : Node) (q : List Nat) : Prop := HexKey q ∧ get t q ≠ none

/-- the two tries answer every terminated key alike -/
def SameContent (t1 t2 : Node) : Prop := ∀ k, HexKey k → get t1 k = get t2 k

theorem SameContent.symm {t1 t2 : Node} (h : SameContent t1 t2) : SameContent t2 t1 := fun k hk => (h k hk).symm

theorem Holds.transfer {t1 t2 : Node} {q : List Nat} (hq : Holds t1 q) (h : SameContent t1 t2) : Holds t2 q :=
  ⟨hq.1, fun e => hq.2 ((h q hq.1).trans e)⟩

theorem Holds.short {k r : List Nat} {c : Node} (h : Holds c r) (hk : Nib k) : Holds (.short k c) (k ++ r) :=
  ⟨hexKey_append hk h.1, by rw [get_short_append]; exact h.2⟩

/-- `t` holds two keys that run together through `k` and part ways right after it.  A branch behind the stem `k`
does, a leaf never does, and whatever sits behind a stem `k'` can only fork at or after the end of `k'`: this is
how the content tells the three forms of node apart and fixes the stem. -/
def Forks (t : Node) (k : List Nat) : Prop :=
  ∃ i j r1 r2, i ≠ j ∧ Holds t (k ++ i :: r1) ∧ Holds t (k ++ j :: r2)

theorem Forks.transfer {t1 t2 : Node} {k : List Nat} (h : SameContent t1 t2) : Forks t1 k → Forks t2 k :=
  fun ⟨i, j, r1, r2, hij, h1, h2⟩ => ⟨i, j, r1, r2, hij, h1.transfer h, h2.transfer h⟩

/-- a branch holds a key under each of its non-nil children, once its children do -/
theorem child_key {cs : Nat → Node} (h16 : cs 16 = .nil ∨ ∃ v, cs 16 = .value v)
    (ih : ∀ i, i < 16 → cs i ≠ .nil → ∃ k, Holds (cs i) k) {i : Nat} (hi : i < 17) (hin : cs i ≠ .nil) :
    ∃ r, Holds (.full cs) (i :: r) := by
  rcases Nat.lt_succ_iff_lt_or_eq.mp hi with hi | rfl
  · obtain ⟨r, hr, hhas⟩ := ih i hi hin
    exact ⟨r, hexKey_cons_iff.mpr (Or.inr ⟨hi, hr⟩), hhas⟩
  · obtain ⟨v, hv⟩ := h16.resolve_left hin
    exact ⟨[], hexKey_16, by rw [get_full_cons, hv]; exact Option.some_ne_none v⟩

theorem canon_has_key {t : Node} (h : Canon t) : t ≠ .nil → ∃ k, Holds t k := by
  induction h with
  | nil => exact fun h => absurd rfl h
  | leaf b v hb => exact fun _ => ⟨_, ⟨b, rfl, hb⟩, by rw [get_leaf, if_pos rfl]; exact Option.some_ne_none v⟩
  | ext k c hk _ hf _ ih =>
    obtain ⟨r, hr⟩ := ih (by rintro rfl; exact hf)
    exact fun _ => ⟨k ++ r, hr.short hk⟩
  | full cs _ _ h16 _ h2 ih =>
    obtain ⟨i, _, hi, _, _, hin, _⟩ := h2
    obtain ⟨r, hr⟩ := child_key h16 ih hi hin
    exact fun _ => ⟨i :: r, hr⟩

theorem forks_full {cs : Nat → Node} (hc : ∀ i, i < 16 → Canon (cs i)) (h16 : cs 16 = .nil ∨ ∃ v, cs 16 = .value v)
    (h2 : ∃ i j, i < 17 ∧ j < 17 ∧ i ≠ j ∧ cs i ≠ .nil ∧ cs j ≠ .nil) : Forks (.full cs) [] := by
  obtain ⟨i, j, hi, hj, hij, hin, hjn⟩ := h2
  have key := @child_key cs h16 fun i hi => canon_has_key (hc i hi)
  obtain ⟨r1, h1⟩ := key hi hin
  obtain ⟨r2, h2⟩ := key hj hjn
  exact ⟨i, j, r1, r2, hij, h1, h2⟩

theorem forks_ext {k : List Nat} {c : Node} (hk : Nib k) (hf : IsFull c) (hc : Canon c) : Forks (.short k c) k := by
  cases hc with
  | full cs hc _ h16 _ h2 =>
    obtain ⟨i, j, r1, r2, hij, h1, h2⟩ := forks_full hc h16 h2
    exact ⟨i, j, r1, r2, hij, h1.short hk, h2.short hk⟩
  | _ => exact hf.elim

theorem not_forks_leaf {k' : List Nat} {v : Bytes} {k : List Nat} : ¬ Forks (.short k' (.value v)) k := by
  rintro ⟨i, j, r1, r2, hij, h1, h2⟩
  -- both keys are the leaf's key
  have key : ∀ q, Holds (.short k' (.value v)) q → q = k' := by
    intro q ⟨_, h⟩
    rw [get_leaf] at h
    exact Classical.byContradiction fun e => h (if_neg e)
  exact hij (List.cons.inj (List.append_cancel_left ((key _ h1).trans (key _ h2).symm))).1

/-- every key below a short node starts with the node's key, so two of them cannot part ways before its end -/
theorem forks_stem {k' k : List Nat} {c : Node} : Forks (.short k' c) k → k' <+: k := by
  rintro ⟨i, j, r1, r2, hij, h1, h2⟩
  have pre : ∀ q, Holds (.short k' c) q → k' <+: q := fun q h => Classical.byContradiction fun hp => h.2 (get_short_none c hp)
  rcases List.prefix_or_prefix_of_prefix (pre _ h1) (List.prefix_append k _) with h | ⟨d, rfl⟩
  · exact h
  · cases d with
    | nil => simp
    | cons y d =>
      have e1 := (List.cons_prefix_cons.mp ((List.prefix_append_right_inj k).mp (pre _ h1))).1
      have e2 := (List.cons_prefix_cons.mp ((List.prefix_append_right_inj k).mp (pre _ h2))).1
      exact absurd (e1.symm.trans e2) hij

theorem not_sameContent_nil {t : Node} (hc : Canon t) (hn : t ≠ .nil) (h : SameContent t .nil) : False :=
  have ⟨k, hk⟩ := canon_has_key hc hn
  (hk.transfer h).2 (get_nil k)

/-- what sits in the terminator's slot of a branch is read off the lookup of the key that ends there -/
theorem term_slot_eq {n : Node} (h : n = .nil ∨ ∃ v, n = .value v) : n = (get n []).elim .nil .value := by
  rcases h with rfl | ⟨v, rfl⟩ <;> rfl

theorem canon_unique {t1 : Node} (h1 : Canon t1) : ∀ t2, Canon t2 → SameContent t1 t2 → t1 = t2 := by
  induction h1 with
  | nil =>
    intro t2 h2 hs
    exact Classical.byContradiction fun hn => not_sameContent_nil h2 (Ne.symm hn) hs.symm
  | leaf b v hb =>
    intro t2 h2 hs
    have hnf (k : List Nat) (h : Forks t2 k) : False := not_forks_leaf (h.transfer hs.symm)
    cases h2 with
    | nil => exact (not_sameContent_nil (Canon.leaf b v hb) Node.noConfusion hs).elim
    | leaf b' v' _ =>
      have e := hs (b ++ [16]) ⟨b, rfl, hb⟩
      rw [get_leaf, get_leaf, if_pos rfl] at e
      split at e
      · next hb2 => rw [hb2, Option.some.inj e]
      · cases e
    | ext k c hk _ hf hc => exact (hnf k (forks_ext hk hf hc)).elim
    | full cs hc' _ h16' _ h2' => exact (hnf [] (forks_full hc' h16' h2')).elim
  | ext k c hk hne hf hc ih =>
    intro t2 h2 hs
    have hF := forks_ext hk hf hc
    cases h2 with
    | nil => exact (not_sameContent_nil (Canon.ext k c hk hne hf hc) Node.noConfusion hs).elim
    | leaf => exact (not_forks_leaf (hF.transfer hs)).elim
    | ext k' c' hk' _ hf' hc' =>
      -- each stem is a prefix of the other
      have hF' := forks_ext hk' hf' hc'
      have e := (forks_stem (hF.transfer hs)).eq_of_length_le (forks_stem (hF'.transfer hs.symm)).length_le
      subst e
      rw [ih c' hc' fun r hr => by simpa only [get_short_append] using hs (k' ++ r) (hexKey_append hk hr)]
    | full cs hc' _ h16' _ h2' =>
      exact absurd (List.prefix_nil.mp (forks_stem ((forks_full hc' h16' h2').transfer hs.symm))) hne
  | full cs hc hnv h16 hbig h2c ih =>
    intro t2 h2 hs
    have hF := forks_full hc h16 h2c
    cases h2 with
    | nil => exact (not_sameContent_nil (Canon.full cs hc hnv h16 hbig h2c) Node.noConfusion hs).elim
    | leaf => exact (not_forks_leaf (hF.transfer hs)).elim
    | ext k' c' _ hne' _ _ => exact absurd (List.prefix_nil.mp (forks_stem (hF.transfer hs))) hne'
    | full cs' hc' hnv' h16' hbig' h2c' =>
      congr 1
      funext i
      rcases Nat.lt_trichotomy i 16 with hi | rfl | hi
      · exact ih i hi (cs' i) (hc' i hi) fun r hr => hs (i :: r) (hexKey_cons_iff.mpr (Or.inr ⟨hi, hr⟩))
      · rw [term_slot_eq h16, term_slot_eq h16', show get (cs 16) [] = get (cs' 16) [] from hs [16] hexKey_16]
      · rw [hbig i hi, hbig' i hi]

end QuaiVerif.Trie
