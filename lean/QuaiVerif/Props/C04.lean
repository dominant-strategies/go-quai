import QuaiVerif.Model.EtxQueue
import QuaiVerif.Lemmas.Guard
/-
C04 — Cross-chain transactions are delivered and executed exactly once, in order.
This file: (a) the destination queue refines a FIFO list for every push/pop history; (b) a destination
block is accepted only if its inbound ETXs are exactly the next items of the queue, and a non-empty
queue may not be ignored below the minimum-inclusion bound.  Tie: T2 area `etxq` (real StateDB
PushETX(s) / PopETX / ReadETX / ETXRoot with commit + reload, every root recomputed by the trie model).
Part (c) — the route through the three-level hierarchy — is Props/C04b.lean.
-/
namespace QuaiVerif.EtxQueue

variable {α : Type}

/-- invariant: the live cells are exactly the indices in `[oldest, newest)` -/
def Inv (q : Q α) : Prop :=
  q.oldest ≤ q.newest ∧ ∀ i, (q.cells i).isSome = true ↔ (q.oldest ≤ i ∧ i < q.newest)

/-- the abstract FIFO content -/
def content (q : Q α) : List α := (toList q).filterMap id

/-! `toList` reads the cells in `[oldest, newest)` only, and grows by one cell at either end. -/

theorem toList_congr {c c' : Nat → Option α} {o n : Nat} (h : ∀ i, o ≤ i → i < n → c i = c' i) :
    toList ⟨c, o, n⟩ = toList ⟨c', o, n⟩ := by
  simp only [toList]
  exact List.map_congr_left fun j hj => h _ (Nat.le_add_right ..) (Nat.add_lt_of_lt_sub' (List.mem_range.mp hj))

theorem toList_snoc {c : Nat → Option α} {o n : Nat} (h : o ≤ n) : toList ⟨c, o, n + 1⟩ = toList ⟨c, o, n⟩ ++ [c n] := by
  simp only [toList, Nat.succ_sub h, List.range_succ, List.map_append, List.map_cons, List.map_nil, Nat.add_sub_cancel' h]

theorem toList_cons {q : Q α} (h : q.oldest < q.newest) :
    toList q = q.cells q.oldest :: toList { q with oldest := q.oldest + 1 } := by
  have e : q.newest - q.oldest = q.newest - (q.oldest + 1) + 1 := (Nat.succ_pred_eq_of_pos (Nat.sub_pos_of_lt h)).symm
  simp only [toList, e, List.range_succ_eq_map, List.map_cons, List.map_map, Nat.add_zero, List.cons.injEq, true_and]
  exact List.map_congr_left fun j _ => congrArg q.cells (Nat.add_right_comm q.oldest j 1)

theorem upd_same (f : Nat → Option α) (i : Nat) (v : Option α) : upd f i v i = v := if_pos rfl

theorem upd_other {f : Nat → Option α} {i j : Nat} {v : Option α} (h : j ≠ i) : upd f i v j = f j := if_neg h

theorem inv_init : Inv ({} : Q α) := ⟨Nat.le_refl _, fun i => by simp⟩

theorem inv_push (q : Q α) (e : α) (h : Inv q) : Inv (push q e) := by
  obtain ⟨h1, h2⟩ := h
  refine ⟨Nat.le_succ_of_le h1, fun i => ?_⟩
  show (upd q.cells q.newest (some e) i).isSome = true ↔ q.oldest ≤ i ∧ i < q.newest + 1
  by_cases hi : i = q.newest
  · rw [hi, upd_same]; exact ⟨fun _ => ⟨h1, Nat.lt_succ_self _⟩, fun _ => rfl⟩
  · rw [upd_other hi, h2 i]
    exact and_congr_right fun _ => ⟨Nat.lt_succ_of_lt, fun hlt => Nat.lt_of_le_of_ne (Nat.le_of_lt_succ hlt) hi⟩

/-- **C04(a) push** appends at the tail -/
theorem C04_push_appends (q : Q α) (e : α) (h : Inv q) : content (push q e) = content q ++ [e] := by
  simp only [content, push]
  rw [toList_snoc h.1, toList_congr fun i _ hi => upd_other (Nat.ne_of_lt hi), upd_same, List.filterMap_append]
  rfl

/-! Under the invariant the cell at `oldest` tells empty from non-empty, and is the head. -/

theorem content_of_none {q : Q α} (h : Inv q) (hc : q.cells q.oldest = none) : content q = [] := by
  have : ¬ q.oldest < q.newest := fun hlt => by
    have := (h.2 q.oldest).mpr ⟨Nat.le_refl _, hlt⟩
    rw [hc] at this; cases this
  simp only [content, toList, Nat.sub_eq_zero_of_le (Nat.le_of_not_lt this)]
  rfl

theorem content_of_some {q : Q α} {e : α} (h : Inv q) (hc : q.cells q.oldest = some e) :
    q.oldest < q.newest ∧ content q = e :: content { q with oldest := q.oldest + 1 } := by
  have hlt := ((h.2 q.oldest).mp (by rw [hc]; rfl)).2
  refine ⟨hlt, ?_⟩
  rw [content, toList_cons hlt, hc]
  rfl

theorem cells_oldest (q : Q α) (h : Inv q) : q.cells q.oldest = (content q).head? := by
  cases hc : q.cells q.oldest with
  | none => rw [content_of_none h hc]; rfl
  | some e => rw [(content_of_some h hc).2]; rfl

/-- **C04(a) pop** returns the head exactly once: on a non-empty queue the oldest item, which is then
gone; on an empty queue nothing, and the queue is unchanged. -/
theorem C04_pop_takes_head (q : Q α) (h : Inv q) :
    (pop q).1 = (content q).head? ∧ content (pop q).2 = (content q).tail ∧ Inv (pop q).2 ∧
      (content q = [] → (pop q).2 = q) := by
  unfold pop
  split
  · next hc => rw [content_of_none h hc]; exact ⟨rfl, rfl, h, fun _ => rfl⟩
  · next e hc =>
    obtain ⟨hlt, hq⟩ := content_of_some h hc
    refine ⟨by rw [hq]; rfl, ?_, ⟨hlt, fun i => ?_⟩, fun h0 => by rw [hq] at h0; cases h0⟩
    · rw [hq, content, toList_congr fun i hi _ => upd_other (Nat.ne_of_gt hi)]; rfl
    · show (upd q.cells q.oldest none i).isSome = true ↔ q.oldest < i ∧ i < q.newest
      by_cases hi : i = q.oldest
      · rw [hi, upd_same]; exact ⟨nofun, fun hb => absurd hb.1 (Nat.lt_irrefl _)⟩
      · rw [upd_other hi, h.2 i]
        exact and_congr_left fun _ => ⟨fun hle => Nat.lt_of_le_of_ne hle (Ne.symm hi), Nat.le_of_lt⟩

inductive Op (α : Type) where
  | push (e : α)
  | pop

def runQ (q : Q α) : List (Op α) → Q α × List (Option α)
  | [] => (q, [])
  | .push e :: t => runQ (push q e) t
  | .pop :: t => let (r, q') := pop q; let (qf, outs) := runQ q' t; (qf, r :: outs)

def runSpec (l : List α) : List (Op α) → List α × List (Option α)
  | [] => (l, [])
  | .push e :: t => runSpec (l ++ [e]) t
  | .pop :: t => match l with
    | [] => let (lf, outs) := runSpec [] t; (lf, none :: outs)
    | x :: r => let (lf, outs) := runSpec r t; (lf, some x :: outs)

theorem runSpec_pop (l : List α) (t : List (Op α)) :
    runSpec l (.pop :: t) = ((runSpec l.tail t).1, l.head? :: (runSpec l.tail t).2) := by
  cases l <;> rfl

/-- **C04(a) FIFO refinement, every history** -/
theorem C04_queue_is_fifo (ops : List (Op α)) :
    ∀ (q : Q α), Inv q → (runQ q ops).2 = (runSpec (content q) ops).2 ∧ content (runQ q ops).1 = (runSpec (content q) ops).1 := by
  induction ops with
  | nil => intro q _; exact ⟨rfl, rfl⟩
  | cons op t ih =>
    intro q h
    cases op with
    | push e =>
      simp only [runQ, runSpec]
      rw [← C04_push_appends q e h]
      exact ih _ (inv_push q e h)
    | pop =>
      obtain ⟨h1, h2, h3, _⟩ := C04_pop_takes_head q h
      simp only [runQ, runSpec_pop, ← h1, ← h2]
      exact ⟨congrArg _ (ih _ h3).1, (ih _ h3).2⟩

/-! ### (b) acceptance -/

theorem popAll_cons [DecidableEq α] {q q' : Q α} {e : α} {es : List α} :
    popAll q (e :: es) = some q' ↔ (pop q).1 = some e ∧ popAll (pop q).2 es = some q' := by
  rw [popAll]
  rcases pop q with ⟨_ | e', q1⟩
  · exact ⟨nofun, nofun⟩
  · simp only [Option.some.injEq]
    split
    · next he => exact ⟨fun h => ⟨he, h⟩, fun h => h.2⟩
    · next he => exact ⟨nofun, fun h => absurd h.1 he⟩

theorem popAll_prefix [DecidableEq α] (es : List α) :
    ∀ (q q' : Q α), Inv q → popAll q es = some q' → content q = es ++ content q' ∧ Inv q' := by
  induction es with
  | nil => intro q q' h hp; cases hp; exact ⟨rfl, h⟩
  | cons e t ih =>
    intro q q' h hp
    obtain ⟨hp1, hp2⟩ := popAll_cons.mp hp
    obtain ⟨h1, h2, h3, _⟩ := C04_pop_takes_head q h
    obtain ⟨ht, hinv⟩ := ih _ _ h3 hp2
    obtain ⟨r, hr⟩ := List.head?_eq_some_iff.mp (h1 ▸ hp1)
    rw [hr] at h2 ⊢
    exact ⟨congrArg (e :: ·) (h2.symm.trans ht), hinv⟩

theorem accept_eq_some_iff [DecidableEq α] {r : Rule} {q q' : Q α} {es : List α} {gas : Nat} :
    accept r q es gas = some q' ↔ popAll q es = some q' ∧
      (r.early = true → ((q'.cells q'.oldest).isSome = true → r.minCount ≤ es.length) ∧ es.length ≤ r.maxCount) ∧
      (r.early = false → ((q'.cells q'.oldest).isSome = true → r.minGas ≤ gas) ∧ gas ≤ r.maxGas) := by
  unfold accept
  cases popAll q es with
  | none => exact ⟨nofun, fun h => nomatch h.1⟩
  | some q1 =>
    simp only [ite_none_eq_some, Option.some.injEq, Bool.and_eq_true, Bool.or_eq_true, decide_eq_true_eq, not_and, not_or,
      Nat.not_lt, Bool.not_eq_true']
    constructor
    · rintro ⟨hA, hB, rfl⟩; exact ⟨rfl, hA, hB⟩
    · rintro ⟨rfl, hA, hB⟩; exact ⟨hA, hB, rfl⟩

/-- **C04(b)** a destination block is accepted only if its inbound ETXs are precisely the next items of
the queue (same items, same order, no duplicates, nothing unknown), and if the queue is still
non-empty afterwards the minimum-inclusion bound was met. -/
theorem C04_accept_exact_prefix [DecidableEq α] (r : Rule) (q q' : Q α) (es : List α) (gas : Nat) (h : Inv q)
    (ha : accept r q es gas = some q') :
    content q = es ++ content q' ∧
    (content q' ≠ [] → (r.early = true → r.minCount ≤ es.length) ∧ (r.early = false → r.minGas ≤ gas)) ∧
    (r.early = true → es.length ≤ r.maxCount) ∧ (r.early = false → gas ≤ r.maxGas) := by
  obtain ⟨hp, hA, hB⟩ := accept_eq_some_iff.mp ha
  obtain ⟨hc, hinv⟩ := popAll_prefix es q q' h hp
  have havail : content q' ≠ [] → (q'.cells q'.oldest).isSome = true := fun hne => by
    rw [cells_oldest q' hinv]; exact List.isSome_head?.mpr hne
  exact ⟨hc, fun hne => ⟨fun he => (hA he).1 (havail hne), fun he => (hB he).1 (havail hne)⟩,
    fun he => (hA he).2, fun he => (hB he).2⟩

/-! ### Non-vacuity -/
example : (runQ ({} : Q Nat) [.push 5, .push 7, .pop, .push 9, .pop, .pop, .pop]).2 = [some 5, some 7, some 9, none] := by
  decide

end QuaiVerif.EtxQueue
