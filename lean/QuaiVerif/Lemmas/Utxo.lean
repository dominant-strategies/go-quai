import QuaiVerif.Model.Utxo
import QuaiVerif.Lemmas.Guard
/-
What each stage of `processQiTx` (Model/Utxo.lean) has done when it accepts: one lemma per stage the theorems speak of
(`precheck` and `checkDenoms` have none: no theorem needs a fact about them), so that no proof about an accepted
transaction unfolds a stage again.
-/
namespace QuaiVerif.Utxo

theorem updU_other {u : Utxos} {k x : OutPoint} {v : Option Entry} (h : x ≠ k) : updU u k v x = u x := if_neg h

theorem processQiTx_ok {e : Env} {b : Block} {tx : QiTx} {r : Result} (h : processQiTx e b tx = .ok r) :
    ∃ used ia oa, precheck e b tx = .ok used ∧
      inputs e { utxos := b.utxos, total := 0, counts := fun _ => 0, addrs := [], deleted := [] } tx.ins = .ok ia ∧
      outputs e tx b.etxRLimit b.etxPLimit
        { utxos := ia.utxos, gasPool := b.gasPool - tx.intrinsicGas, usedGas := used, total := 0, convTotal := 0,
          counts := fun _ => 0, addrs := ia.addrs, conversion := false, wrapping := false, convAddr := [],
          etxRGas := 0, etxPGas := 0, etxs := [], created := [] } 0 tx.outs = .ok oa ∧
      finish e b tx ia oa = .ok r := by
  unfold processQiTx at h
  split at h; · cases h
  split at h; · cases h
  split at h; · cases h
  exact ⟨_, _, _, ‹_›, ‹_›, ‹_›, h⟩

theorem inputs_cons_ok {e : Env} {a a' : InAcc} {i : TxIn} {rest : List TxIn} (h : inputs e a (i :: rest) = .ok a') :
    ∃ u, a.utxos i.op = some u ∧ u.lock ≤ e.height ∧ Addr.isQi i.pkAddr = true ∧ addr20 u.addr = i.pkAddr ∧ u.denom ≤ maxDenom e ∧
      inputs e { utxos := updU a.utxos i.op none, total := a.total + denomValue e u.denom, counts := inc a.counts u.denom,
                 addrs := u.addr.take 20 :: a.addrs, deleted := a.deleted ++ [(i.op, u)] } rest = .ok a' := by
  rw [inputs] at h
  cases hu : a.utxos i.op with
  | none => rw [hu] at h; cases h
  | some u =>
    simp only [hu, ite_error_eq_ok] at h
    exact ⟨u, rfl, Nat.le_of_not_gt h.2.1, by simpa using h.2.2.1, by simpa using h.2.2.2.1, Nat.le_of_not_gt h.2.2.2.2.1, h.2.2.2.2.2⟩

theorem inputs_spec {e : Env} {ins : List TxIn} {a a' : InAcc} (h : inputs e a ins = .ok a') :
    (ins.map (·.op)).Nodup ∧
    (∀ i ∈ ins, ∃ u, a.utxos i.op = some u ∧ u.lock ≤ e.height ∧ addr20 u.addr = i.pkAddr ∧ Addr.isQi i.pkAddr = true) ∧
    (∀ k, a'.utxos k = if k ∈ ins.map (·.op) then none else a.utxos k) ∧
    a'.total = a.total + (ins.map fun i => match a.utxos i.op with | some u => denomValue e u.denom | none => 0).sum := by
  induction ins generalizing a with
  | nil => cases h; exact ⟨List.nodup_nil, fun _ h => absurd h List.not_mem_nil, fun _ => rfl, rfl⟩
  | cons i rest ih =>
    obtain ⟨u, hu, hl, hq, ha, -, h⟩ := inputs_cons_ok h
    obtain ⟨hnd, hall, hk, ht⟩ := ih h
    dsimp only at hall hk ht   -- `ih` speaks of the accumulator literal: reduce its projections
    -- the tail ran on the store without `i.op` and found each of its outpoints there
    have hne : ∀ j ∈ rest, j.op ≠ i.op := fun j hj hji => by
      obtain ⟨_, hj', _⟩ := hall j hj
      rw [hji, updU, if_pos rfl] at hj'
      cases hj'
    refine ⟨List.nodup_cons.mpr ⟨fun hin => ?_, hnd⟩, ?_, fun k => ?_, ?_⟩
    · obtain ⟨j, hj, hji⟩ := List.mem_map.mp hin
      exact hne j hj hji
    · intro j hj
      rcases List.mem_cons.mp hj with rfl | hj
      · exact ⟨u, hu, hl, ha, hq⟩
      · have := hall j hj
        rwa [updU_other (hne j hj)] at this
    · rw [hk k]
      by_cases hki : k = i.op
      · simp [hki, updU]
      · simp [hki, updU_other hki]
    · rw [ht, List.map_cons, List.sum_cons, hu, Nat.add_assoc]
      congr 2
      exact congrArg List.sum (List.map_congr_left fun j hj => by rw [updU_other (hne j hj)])

theorem outputs_invariant {e : Env} {tx : QiTx} {rl pl : Nat} {P : OutAcc → Prop}
    (step : ∀ a idx o k, classifyOut e tx rl pl a idx o = .ok k → P a → P (applyOut e tx a idx o k))
    {outs : List TxOut} {a a' : OutAcc} {idx : Nat} (h : outputs e tx rl pl a idx outs = .ok a') (ha : P a) : P a' := by
  induction outs generalizing a idx with
  | nil => cases h; exact ha
  | cons o rest ih =>
    rw [outputs, stepOut] at h
    cases hc : classifyOut e tx rl pl a idx o with
    | error m => rw [hc] at h; cases h
    | ok k => rw [hc] at h; exact ih h (step a idx o k hc ha)

theorem classify_wrapLocal_prefork {e : Env} {tx : QiTx} {rl pl : Nat} {a : OutAcc} {idx : Nat} {o : TxOut}
    (h : classifyOut e tx rl pl a idx o = .ok .wrapLocal) : ¬ e.ptn ≥ e.wrapChangeBlock := by
  intro hp
  -- once the fork condition is decided no leaf of the chain is `.ok .wrapLocal`
  simp only [classifyOut, if_pos hp, ite_eq_ok, Except.ok.injEq, reduceCtorEq, and_false, or_false] at h

theorem withConvEtx_ok {e : Env} {b : Block} {oa oa' : OutAcc} {fq rg : Nat} (h : withConvEtx e b oa fq rg = .ok oa') :
    oa' = oa ∨ ∃ x, x.kind ≠ .transfer ∧
      oa' = { oa with etxPGas := oa.etxPGas + e.convGas, usedGas := oa.usedGas + e.etxGas, gasPool := oa.gasPool - e.etxGas, etxs := oa.etxs ++ [x] } := by
  unfold withConvEtx at h
  by_cases hc : (!(oa.conversion || oa.wrapping)) = true
  · rw [if_pos hc] at h; exact .inl (Except.ok.inj h).symm
  · rw [if_neg hc] at h
    simp only [ite_error_eq_ok, Except.ok.injEq] at h
    refine .inr ⟨_, ?_, h.2.2.2.2.symm⟩
    cases oa.wrapping <;> simp

theorem finish_ok {e : Env} {b : Block} {tx : QiTx} {ia : InAcc} {oa : OutAcc} {r : Result} (h : finish e b tx ia oa = .ok r) :
    oa.total ≤ ia.total ∧ (e.checkSig = true → tx.sigOK = true) ∧
    ∃ oa', withConvEtx e b oa (qiToQuai e (ia.total - oa.total)) (tx.intrinsicGas + oa.etxs.length * (e.txGas + e.etxGas)) = .ok oa' ∧
      r = { block := { utxos := oa'.utxos, gasPool := oa'.gasPool, usedGas := oa'.usedGas,
                       etxRLimit := b.etxRLimit - oa'.etxRGas, etxPLimit := b.etxPLimit - oa'.etxPGas },
            fee := ia.total - oa.total, etxs := oa'.etxs, created := oa'.created, deleted := ia.deleted,
            totalIn := ia.total, totalOut := oa'.total, converted := oa'.convTotal } := by
  simp only [finish, ite_error_eq_ok] at h
  obtain ⟨h1, -, -, h⟩ := h
  split at h; · cases h
  simp only [ite_error_eq_ok, Except.ok.injEq] at h
  refine ⟨Nat.le_of_not_gt h1, fun hc => ?_, _, ‹_›, h.2.2.symm⟩
  simpa [hc] using h.2.1

theorem applyOut_utxos_of_ne {e : Env} {tx : QiTx} {a : OutAcc} {idx : Nat} {o : TxOut} {k : OutPoint} (hk : k.1 ≠ tx.hash) :
    ∀ kind, (applyOut e tx a idx o kind).utxos k = a.utxos k
  | .conv | .wrapSkip | .etx _ _ => rfl
  | .wrapLocal | .local_ => updU_other fun hh => hk (congrArg Prod.fst hh)

end QuaiVerif.Utxo
