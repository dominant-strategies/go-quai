import QuaiVerif.Model.Seal
import QuaiVerif.Gen.Seal
import QuaiVerif.Gen.Validator
import QuaiVerif.Lemmas.List
/-
C08: a block is sealed only by work on exactly its contents.  Acceptance arithmetic (target = floor(2^256 /
difficulty), accept iff hash <= target) with its boundaries and monotonicity is proved on the model; that the seal
pre-image covers every consensus field of the sealed header - and, through the header hash it contains, every
field of the body header, whose roots ValidateBody ties to the body - is a theorem over tables regenerated from
SealEncode / the struct definitions.  Area c08 runs the arithmetic against the real VerifySeal / work-share
threshold on real hashes, probes every setter of both headers for an unchanged seal hash, and checks that the
KAWPOW light evaluation is a function of the full 64-bit nonce.
-/
namespace QuaiVerif.Seal

theorem verifySeal_ok_iff (h : Nat) (d : Int) : verifySeal h d = .ok ↔ 0 < d ∧ (h : Int) * d ≤ (2 : Int) ^ 256 := by
  unfold verifySeal target
  split
  · next hd => exact ⟨nofun, fun ⟨h0, _⟩ => absurd h0 (Int.not_lt.mpr hd)⟩
  · next hd =>
    have hd' := Int.not_le.mp hd
    rw [← Int.le_ediv_iff_mul_le hd']
    split
    · next hh => exact ⟨nofun, fun ⟨_, h1⟩ => absurd h1 (Int.not_le.mpr hh)⟩
    · next hh => exact ⟨fun _ => ⟨hd', Int.not_lt.mp hh⟩, fun _ => rfl⟩

/-- An accepted seal represents at least `difficulty` expected hashes. -/
theorem C08_accepted_seal_is_work (h : Nat) (d : Int) (acc : verifySeal h d = .ok) : 0 < d ∧ (h : Int) * d ≤ (2 : Int) ^ 256 :=
  (verifySeal_ok_iff h d).mp acc

theorem C08_accept_iff (h : Nat) (d : Int) (hd : 0 < d) : verifySeal h d = .ok ↔ (h : Int) ≤ (2 : Int) ^ 256 / d := by
  rw [verifySeal_ok_iff, Int.le_ediv_iff_mul_le hd]; exact and_iff_right hd

/-- A seal good for a difficulty is good for every lower (positive) difficulty. -/
theorem C08_monotone_in_difficulty (h : Nat) (d d' : Int) (hd' : 0 < d') (hle : d' ≤ d) (acc : verifySeal h d = .ok) :
    verifySeal h d' = .ok :=
  (verifySeal_ok_iff h d').mpr ⟨hd', Int.le_trans (Int.mul_le_mul_of_nonneg_left hle (Int.natCast_nonneg _))
    ((verifySeal_ok_iff h d).mp acc).2⟩

/-- Boundaries: non-positive difficulty is never sealed; difficulty 1 accepts every 256-bit hash; difficulty 2^256
accepts only hashes 0 and 1; difficulty 2^256 + 1 only the zero hash. -/
theorem C08_boundaries (h : Nat) :
    verifySeal h 0 = .invalidDifficulty ∧ verifySeal h (-1) = .invalidDifficulty ∧
    (h < 2 ^ 256 → verifySeal h 1 = .ok) ∧
    (verifySeal h ((2 : Int) ^ 256) = .ok ↔ h ≤ 1) ∧
    (verifySeal h ((2 : Int) ^ 256 + 1) = .ok ↔ h = 0) := by
  refine ⟨if_pos (by decide), if_pos (by decide), fun hh => ?_, ?_, ?_⟩
  · rw [verifySeal_ok_iff]; omega
  · rw [verifySeal_ok_iff]; omega
  · rw [verifySeal_ok_iff]; omega

/-- Every sealed block is also a work share at any threshold. -/
theorem C08_seal_is_share (h : Nat) (d : Int) (bits : Nat) (acc : verifySeal h d = .ok) : isWorkShare h d bits = true := by
  have hd := ((verifySeal_ok_iff h d).mp acc).1
  have acc := (C08_accept_iff h d hd).mp acc
  have h0 : 0 ≤ (2 : Int) ^ 256 / d := Int.ediv_nonneg (by decide) (Int.le_of_lt hd)
  have h1 : (1 : Int) ≤ (2 : Int) ^ bits := Int.pow_pos (by decide)
  exact decide_eq_true (Int.le_trans acc (Int.mul_one (_ / d) ▸ Int.mul_le_mul_of_nonneg_left h1 h0))

/-- Fields of the sealed header that are deliberately not part of the seal pre-image: the nonce and mix hash are
the proof itself, the AuxPoW donor data commits to the seal hash (it cannot be inside it); the last two are caches. -/
def woNotSealed : List String := ["nonce", "mixhash", "auxpow", "powhash", "powdigest"]

/-- Every other field of WorkObjectHeader is in the seal pre-image (the share-difficulty fields from the KawPow
fork on, before which they do not exist). -/
theorem C08_seal_covers_every_consensus_field :
    Gen.woHeaderFields.all (fun f => woNotSealed.contains f || Gen.woSealKeys.contains f || Gen.woSealKeysAfterKawpow.contains f) = true := by
  -- plain `decide` evaluates the sweep twice, in the elaborator and again in the kernel; `+kernel` leaves it to the kernel
  decide +kernel

/-- The fields that enter the seal only after the fork are exactly the five share-difficulty fields. -/
theorem C08_only_share_fields_are_fork_gated :
    Gen.woSealKeysAfterKawpow = ["kawpowdifficulty", "scryptdiffandcount", "scryptsharetarget", "shadiffandcount", "shasharetarget"] := by
  rfl

/-- The seal contains the body header's hash, and that hash covers every field of the body header (`hash` and
`sealhash` are its caches). -/
theorem C08_header_hash_covers_every_field :
    Gen.woSealKeys.contains "headerhash" = true ∧
    Gen.headerFields.all (fun f => f == "hash" || f == "sealhash" || Gen.headerSealKeys.contains f) = true := by
  decide +kernel

/-- Every slot of the seal pre-image and of the header-hash pre-image is filled from the field of the same name (a
slot filled from another field would leave its own field out of the hash while the coverage tables still look complete),
and every seal slot of the work-object header has such a source. -/
theorem C08_seal_slots_filled_from_their_own_fields :
    Gen.woSealSources.all (fun p => p.1 == p.2) = true ∧ Gen.headerSealSources.all (fun p => p.1 == p.2) = true ∧
    (Gen.woSealKeys ++ Gen.woSealKeysAfterKawpow).all (fun k => (Gen.woSealSources.map (·.1)).contains k) = true :=
  -- the first two by unfolding alone: the two components of each pair are the same literal, no string is compared
  ⟨all_fst_beq_snd _ rfl, all_fst_beq_snd _ rfl, by decide +kernel⟩

/-- The body header's roots are compared with the body by ValidateBody (transactions, outbound ETXs, uncles). -/
theorem C08_roots_bind_body :
    ["TxHash", "OutboundEtxHash", "UncleHash"].all (fun f => Gen.validateBodyCompares.contains f) = true := by
  decide +kernel

example : verifySeal 5 3 = .ok ∧ verifySeal (2 ^ 255) 3 = .invalidPoW := by decide

end QuaiVerif.Seal
