import QuaiVerif.Lemmas.Utxo
/-
C01 — Qi ledger: each output spent at most once; no Qi created from nothing.
Model: Model/Utxo.lean (ProcessQiTx check by check over the batch view of the UTXO set).
Tie: T2 area `utxo` — blocks of really signed Qi transactions through the real core.ProcessQiTx on
leveldb / pebble / memorydb batches; verdict class, fee, ETXs, gas and the final UTXO scan compared.
-/
namespace QuaiVerif.Utxo

/-- **C01 (inside one transaction)** an accepted Qi transaction names pairwise distinct outpoints, each
of which was unspent in the view it was processed on, unlocked at this height, and owned by the key the
input presents (a Qi-ledger key); with signature checking on, the aggregate signature verified for
exactly those keys; the outputs never exceed the inputs and the fee is the difference. -/
theorem C01_accepted_tx_spends_owned_unspent_once (e : Env) (b : Block) (tx : QiTx) (r : Result)
    (h : processQiTx e b tx = .ok r) :
    (tx.ins.map (·.op)).Nodup ∧
    (∀ i ∈ tx.ins, ∃ u, b.utxos i.op = some u ∧ u.lock ≤ e.height ∧ addr20 u.addr = i.pkAddr ∧ Addr.isQi i.pkAddr = true) ∧
    (e.checkSig = true → tx.sigOK = true) ∧
    r.totalOut ≤ r.totalIn ∧ r.fee = r.totalIn - r.totalOut ∧
    r.totalIn = (tx.ins.map fun i => match b.utxos i.op with | some u => denomValue e u.denom | none => 0).sum := by
  obtain ⟨_, ia, oa, -, hi, -, hf⟩ := processQiTx_ok h
  obtain ⟨hnd, hall, -, ht⟩ := inputs_spec hi
  obtain ⟨hle, hsig, oa', hw, rfl⟩ := finish_ok hf
  have htot : oa'.total = oa.total := by rcases withConvEtx_ok hw with rfl | ⟨_, -, rfl⟩ <;> rfl
  exact ⟨hnd, hall, hsig, htot ▸ hle, by rw [htot], ht.trans (Nat.zero_add _)⟩

/-- The view after an accepted transaction, away from its own hash: the inputs are gone, everything else is as it was
(the outputs are entered under the transaction's own hash). -/
theorem processQiTx_view {e : Env} {b : Block} {tx : QiTx} {r : Result} (h : processQiTx e b tx = .ok r)
    {k : OutPoint} (hk : k.1 ≠ tx.hash) : r.block.utxos k = if k ∈ tx.ins.map (·.op) then none else b.utxos k := by
  obtain ⟨_, ia, oa, -, hi, ho, hf⟩ := processQiTx_ok h
  obtain ⟨-, -, oa', hw, rfl⟩ := finish_ok hf
  have : oa'.utxos = oa.utxos := by rcases withConvEtx_ok hw with rfl | ⟨_, -, rfl⟩ <;> rfl
  rw [this, ← (inputs_spec hi).2.2.1 k]
  exact outputs_invariant (P := fun a => a.utxos k = ia.utxos k)
    (fun a idx o kind _ ha => (applyOut_utxos_of_ne hk kind).trans ha) ho rfl

/-- **C01 (a consumed outpoint stays consumed)** after an accepted transaction every outpoint it
consumed is absent from the view later transactions of the block (and, once the batch is written, later
blocks) read — so it cannot be consumed a second time; outpoints of other transactions are untouched. -/
theorem C01_consumed_outpoints_are_gone (e : Env) (b : Block) (tx : QiTx) (r : Result)
    (h : processQiTx e b tx = .ok r) (hfresh : ∀ i ∈ tx.ins, i.op.1 ≠ tx.hash) :
    (∀ i ∈ tx.ins, r.block.utxos i.op = none) ∧
    (∀ k, k.1 ≠ tx.hash → k ∉ tx.ins.map (·.op) → r.block.utxos k = b.utxos k) :=
  ⟨fun i hi => (processQiTx_view h (hfresh i hi)).trans (if_pos (List.mem_map_of_mem hi)),
    fun _ hk1 hk2 => (processQiTx_view h hk1).trans (if_neg hk2)⟩

/-- **C01 (across the transactions of a block)** if two transactions are accepted one after the other
on the same batch view, they consume disjoint outpoints: no output is spent twice in a block. -/
theorem C01_no_double_spend_in_block (e1 e2 : Env) (b : Block) (tx1 tx2 : QiTx) (r1 r2 : Result)
    (h1 : processQiTx e1 b tx1 = .ok r1) (h2 : processQiTx e2 r1.block tx2 = .ok r2)
    (hfresh : ∀ i ∈ tx1.ins, i.op.1 ≠ tx1.hash) :
    ∀ i ∈ tx1.ins, ∀ j ∈ tx2.ins, i.op ≠ j.op := by
  intro i hi j hj heq
  have gone := (C01_consumed_outpoints_are_gone e1 b tx1 r1 h1 hfresh).1 i hi
  obtain ⟨u, hu, _⟩ := (C01_accepted_tx_spends_owned_unspent_once e2 r1.block tx2 r2 h2).2.1 j hj
  rw [← heq, gone] at hu
  cases hu

/-- the value the outputs seen so far have been turned into: local UTXOs, transfers to other zones, the amount converted or wrapped -/
def accounted (e : Env) (a : OutAcc) : Nat :=
  (a.created.map fun c => denomValue e c.2.denom).sum +
    ((a.etxs.filter fun x => x.kind = .transfer).map fun x => denomValue e x.value).sum + a.convTotal

theorem applyOut_accounted {e : Env} {tx : QiTx} {rl pl : Nat} (hp : e.ptn ≥ e.wrapChangeBlock) (a : OutAcc) (idx : Nat) (o : TxOut) (k : OutKind)
    (hc : classifyOut e tx rl pl a idx o = .ok k) (ha : a.total = accounted e a) :
    (applyOut e tx a idx o k).total = accounted e (applyOut e tx a idx o k) := by
  cases k with
  | wrapLocal => exact absurd hp (classify_wrapLocal_prefork hc)
  | conv | wrapSkip => exact (congrArg (· + denomValue e o.denom) ha).trans (Nat.add_assoc ..)
  | etx rg pg =>
    simp only [applyOut, accounted, ha, List.filter_append, List.map_append, List.sum_append]
    -- the sum over the one new entry is `value + 0` by evaluation: shown, so that `omega` sees it
    show _ + _ + _ + denomValue e o.denom = _ + (_ + (denomValue e o.denom + 0)) + _
    omega
  | local_ =>
    simp only [applyOut, accounted, ha, List.map_append, List.sum_append]
    show _ + _ + _ + denomValue e o.denom = _ + (denomValue e o.denom + 0) + _ + _
    omega

/-- After the wrapping fork every qit of the outputs is in exactly one of: a local UTXO, a transfer ETX, the amount converted or wrapped. -/
theorem processQiTx_outputs_accounted {e : Env} {b : Block} {tx : QiTx} {r : Result}
    (h : processQiTx e b tx = .ok r) (hp : e.ptn ≥ e.wrapChangeBlock) :
    r.totalOut = (r.created.map fun c => denomValue e c.2.denom).sum +
      ((r.etxs.filter fun x => x.kind = .transfer).map fun x => denomValue e x.value).sum + r.converted := by
  obtain ⟨_, ia, oa, -, -, ho, hf⟩ := processQiTx_ok h
  obtain ⟨-, -, oa', hw, rfl⟩ := finish_ok hf
  have hoa : oa.total = accounted e oa := outputs_invariant (applyOut_accounted hp) ho rfl
  -- the conversion ETX appended afterwards is not a transfer
  rcases withConvEtx_ok hw with rfl | ⟨x, hx, rfl⟩
  · exact hoa
  · simpa [accounted, hx] using hoa

/-- **C01 (no Qi from nothing)** for every accepted Qi transaction (after the wrapping fork) the value
consumed equals the value of the outputs created locally plus the value sent to other zones plus the
amount converted / wrapped plus the fee. -/
theorem C01_value_conservation (e : Env) (b : Block) (tx : QiTx) (r : Result)
    (h : processQiTx e b tx = .ok r) (hp : e.ptn ≥ e.wrapChangeBlock) :
    r.totalIn = (r.created.map fun c => denomValue e c.2.denom).sum +
      ((r.etxs.filter fun x => x.kind = .transfer).map fun x => denomValue e x.value).sum + r.converted + r.fee := by
  obtain ⟨-, -, -, hle, hfee, -⟩ := C01_accepted_tx_spends_owned_unspent_once e b tx r h
  rw [← processQiTx_outputs_accounted h hp, hfee]
  exact (Nat.add_sub_cancel' hle).symm

/-! ### Non-vacuity: a concrete accepted spend, and the same outpoint named twice rejected -/
def exEnv : Env where
  location := [0, 0]
  chainId := 1337
  height := 100
  gasLimit := 5000000
  ptn := 2000000
  baseFee := 1
  quaiR := 1000000
  qiR := 1
  eligible := [1]
  denoms := [1, 5, 10, 50, 100, 500, 1000, 5000, 10000, 20000, 100000, 1000000, 10000000, 100000000, 1000000000]
  wrapChangeBlock := 1570000
  kawpowFork := 1171500
  shaFork := 1755000
  holdInterval := 20000
  checkSig := true
  isFirstQiTx := false

def exOwner : Bytes := 0 :: 200 :: List.replicate 18 7
def exBlock : Block where
  utxos := updU (fun _ => none) (11, 0) (some { denom := 8, addr := exOwner, lock := 0 })
  gasPool := 5000000
  usedGas := 0
  etxRLimit := 1050000
  etxPLimit := 1050000

def exTx (ins : List TxIn) : QiTx where
  hash := 99
  chainId := 1337
  ins := ins
  outs := [{ denom := 7, addr := 0 :: 201 :: List.replicate 18 1, lock := 0 }, { denom := 6, addr := 0 :: 202 :: List.replicate 18 2, lock := 0 }]
  data := []
  intrinsicGas := 21800
  sigOK := true

example : (match processQiTx exEnv exBlock (exTx [{ op := (11, 0), pkAddr := exOwner }]) with
    | .ok r => r.fee == 4000 && r.created.length == 2 | .error _ => false) = true := by decide
example : (match processQiTx exEnv exBlock (exTx [{ op := (11, 0), pkAddr := exOwner }, { op := (11, 0), pkAddr := exOwner }]) with
    | .ok _ => "accepted" | .error m => m) = "nonexistent" := by decide

end QuaiVerif.Utxo
