import QuaiVerif.Model.Value
/-
C02 — Quai ledger: executing a transaction never creates value.
Model: Model/Value.lean (value skeleton of nested call frames).  Tie: T2 area `evm` (`vtree` ops: the same
frame trees run by the real interpreter; every account balance and the ETX cache compared) and T3 (sum of
balances before/after real executions incl. core.ApplyMessage gas charge bounds).  The gas purchase is Props/C02b.lean;
`C02_create_conserves_value` (creation frames) is in Props/C05.lean, with the `Create` model's other theorems.
-/
namespace QuaiVerif.Value

/-- total balance over a finite universe of accounts -/
def tot (U : List Nat) (bal : Nat → Nat) : Nat := (U.map bal).sum

theorem upd_same {β : Type} (f : Nat → β) (a : Nat) (v : β) : upd f a v a = v := if_pos rfl
theorem upd_other {β : Type} {f : Nat → β} {a x : Nat} {v : β} (h : x ≠ a) : upd f a v x = f x := if_neg h
theorem upd_upd {β : Type} (f : Nat → β) (a : Nat) (v w : β) : upd (upd f a v) a w = upd f a w :=
  funext fun x => by by_cases h : x = a <;> simp [upd, h]

section
variable {U : List Nat} (bal : Nat → Nat) {a : Nat}

theorem tot_upd_notin (v : Nat) (h : a ∉ U) : tot U (upd bal a v) = tot U bal :=
  congrArg List.sum (List.map_congr_left fun _ hx => upd_other fun e => h (e ▸ hx))

variable (hU : U.Nodup) (h : a ∈ U)
include hU h

/-- overwriting one balance of the universe moves the total by the difference -/
theorem tot_upd (v : Nat) : tot U (upd bal a v) + bal a = tot U bal + v := by
  induction U with
  | nil => cases h
  | cons x t ih =>
    have ⟨hx, ht⟩ := List.nodup_cons.mp hU
    show upd bal a v x + tot t (upd bal a v) + bal a = bal x + tot t bal + v
    by_cases e : x = a
    · subst e; rw [tot_upd_notin bal v hx, upd_same]; omega
    · have := ih ht ((List.mem_cons.mp h).resolve_left (Ne.symm e))
      rw [upd_other e]; omega

theorem tot_credit (x : Nat) : tot U (upd bal a (bal a + x)) = tot U bal + x := by
  have := tot_upd bal hU h (bal a + x); omega

theorem tot_debit (x : Nat) (hx : x ≤ bal a) : tot U (upd bal a (bal a - x)) + x = tot U bal := by
  have := tot_upd bal hU h (bal a - x); omega

end

def etxSum (s : St) : Nat := (s.etxs.map (·.2)).sum

/-- the accounting equation relative to a starting state -/
def Acct (U : List Nat) (s0 s : St) : Prop :=
  tot U s.bal + etxSum s + s.burned + s0.minted = tot U s0.bal + etxSum s0 + s0.burned + s.minted ∧
  s0.minted ≤ s.minted

-- all addresses an item mentions are in the universe
mutual
def inU (U : List Nat) : Item → Bool
  | .emit _ => true
  | .sd b => U.contains b
  | .sub _ _ a body _ => U.contains a && inUs U body
def inUs (U : List Nat) : List Item → Bool
  | [] => true
  | it :: rest => inU U it && inUs U rest
end

/-- how a sub-call of any kind ends: a body that failed, or reached its REVERT, leaves the state at entry -/
def close (s : St) (rv : Bool) (x : St × Res) : St × Res :=
  if x.2 = .fail || (rv && x.2 = .ok) then (s, .ok) else (x.1, .ok)

section
variable (c : Cfg) (self : Nat) (static : Bool) (s : St) (value addr : Nat) (body : List Item) (rv : Bool)

theorem execItem_call : execItem c self static s (.sub .call value addr body rv) =
    if static && value ≠ 0 then (s, .fail)
    else if value ≠ 0 && s.bal self < value then (s, .ok)
    else close s rv (execItems c addr static
      { s with bal := upd (upd s.bal self (s.bal self - value)) addr ((upd s.bal self (s.bal self - value)) addr + value) }
      body) := rfl

theorem execItem_callcode : execItem c self static s (.sub .callcode value addr body rv) =
    if value ≠ 0 && s.bal self < value then (s, .ok) else close s rv (execItems c self static s body) := rfl

theorem execItem_delegate :
    execItem c self static s (.sub .delegate value addr body rv) = close s rv (execItems c self static s body) := rfl

theorem execItem_static :
    execItem c self static s (.sub .static value addr body rv) = close s rv (execItems c addr true s body) := rfl

end

/-- SELFDESTRUCT with refund `r`: the beneficiary is credited the executing account's balance and the refund, the account is
zeroed, and what it then held beyond its balance at entry - it was its own beneficiary - is destroyed -/
def destruct (s : St) (self ben r : Nat) : St :=
  let B := upd s.bal ben (s.bal ben + (s.bal self + r))
  { bal := upd B self 0, etxs := s.etxs, suicided := upd s.suicided self true, minted := s.minted + r,
    burned := s.burned + (if ben = self then B self - s.bal self else 0) }

/-- The model credits the balance and then, if one is due, the refund.  With no refund its state is `destruct s self ben 0`
as it stands (`x + 0` is `x` by `rfl`); with one, the two credits to `ben` are one. -/
theorem execItem_sd (c : Cfg) (self : Nat) (s : St) (ben : Nat) : execItem c self false s (.sd ben) =
    (destruct s self ben (if !c.refundOnce || !s.suicided self then c.refund else 0), .halt) := by
  cases h : !c.refundOnce || !s.suicided self <;> simp only [execItem, destruct, h, Bool.false_eq_true, ↓reduceIte]
  · rfl
  · rw [upd_upd, upd_same, Nat.add_assoc]

theorem close_failed {s : St} {rv : Bool} {x : St × Res} (h : x.2 = .fail ∨ (rv = true ∧ x.2 = .ok)) :
    close s rv x = (s, .ok) := by
  rcases h with h | ⟨h1, h2⟩ <;> simp [close, *]

theorem acct_refl (U : List Nat) (s : St) : Acct U s s := ⟨rfl, Nat.le_refl _⟩

theorem acct_trans {U : List Nat} {a b c : St} (h1 : Acct U a b) (h2 : Acct U b c) : Acct U a c :=
  ⟨by have := h1.1; have := h2.1; omega, Nat.le_trans h1.2 h2.2⟩

/-- the credit puts the executing account's balance into the total a second time; zeroing the account takes it out again -/
theorem acct_destruct (U : List Nat) (hU : U.Nodup) (s : St) (self ben r : Nat) (hs : self ∈ U) (hb : ben ∈ U) :
    Acct U s (destruct s self ben r) := by
  have hT := tot_credit s.bal hU hb (s.bal self + r)
  have h0 := tot_upd (upd s.bal ben (s.bal ben + (s.bal self + r))) hU hs 0
  refine ⟨?_, Nat.le_add_right ..⟩
  show tot U (upd _ self 0) + etxSum s + (s.burned + _) + s.minted = _ + (s.minted + r)
  by_cases e : ben = self
  · subst e
    rw [upd_same] at h0
    rw [if_pos rfl, upd_same, Nat.add_sub_cancel_left]
    omega
  · rw [upd_other (Ne.symm e)] at h0
    rw [if_neg e]
    omega

theorem acct_close {U : List Nat} {s : St} {rv : Bool} {x : St × Res} (h : Acct U s x.1) :
    Acct U s (close s rv x).1 := by
  unfold close
  split
  · exact acct_refl U s
  · exact h

mutual
theorem execItem_acct (c : Cfg) (U : List Nat) (hU : U.Nodup) :
    ∀ (it : Item) (self : Nat) (static : Bool) (s : St), self ∈ U → inU U it = true →
      Acct U s (execItem c self static s it).1
  | .emit v, self, static, s, hs, _ => by
    simp only [execItem]
    split; · exact acct_refl U s
    split; · exact acct_refl U s
    next h2 =>
      have hb : v ≤ s.bal self := by
        simp only [Bool.or_eq_true, decide_eq_true_eq, not_or, Nat.not_lt] at h2; exact h2.2
      have := tot_debit s.bal hU hs v hb
      refine ⟨?_, Nat.le_refl _⟩
      simp only [etxSum, List.map_append, List.sum_append, List.map_cons, List.map_nil, List.sum_cons, List.sum_nil]
      omega
  | .sd ben, self, static, s, hs, hin => by
    have hben : ben ∈ U := by simpa [inU] using hin
    cases static
    case true => exact acct_refl U s
    case false =>
      rw [execItem_sd]
      exact acct_destruct U hU s self ben _ hs hben
  | .sub kind value addr body rv, self, static, s, hs, hin => by
    have ⟨ha, hb⟩ : addr ∈ U ∧ inUs U body = true := by simpa [inU] using hin
    cases kind with
    | call =>
      rw [execItem_call]
      split; · exact acct_refl U s
      split; · exact acct_refl U s
      next h2 =>
        have hv : value ≤ s.bal self := by
          simp only [Bool.and_eq_true, decide_eq_true_eq] at h2; omega
        -- the transfer preserves the total; then the body
        refine acct_close (acct_trans ?_ (execItems_acct c U hU body addr static _ ha hb))
        refine ⟨?_, Nat.le_refl _⟩
        show tot U (upd _ addr _) + etxSum s + s.burned + s.minted = _
        rw [tot_credit _ hU ha _, ← tot_debit s.bal hU hs value hv]
    | callcode =>
      rw [execItem_callcode]
      split; · exact acct_refl U s
      exact acct_close (execItems_acct c U hU body self static s hs hb)
    | delegate =>
      rw [execItem_delegate]
      exact acct_close (execItems_acct c U hU body self static s hs hb)
    | static =>
      rw [execItem_static]
      exact acct_close (execItems_acct c U hU body addr true s ha hb)
theorem execItems_acct (c : Cfg) (U : List Nat) (hU : U.Nodup) :
    ∀ (its : List Item) (self : Nat) (static : Bool) (s : St), self ∈ U → inUs U its = true →
      Acct U s (execItems c self static s its).1
  | [], _, _, s, _, _ => acct_refl U s
  | it :: rest, self, static, s, hs, hin => by
    have ⟨h1, h2⟩ : inU U it = true ∧ inUs U rest = true := by simpa [inUs] using hin
    have a1 := execItem_acct c U hU it self static s hs h1
    simp only [execItems]
    split <;> rename_i s1 heq <;> rw [heq] at a1
    · exact acct_trans a1 (execItems_acct c U hU rest self static s1 hs h2)
    · exact a1
    · exact a1
end

/-- **C02 (no value from nothing)** for every tree of call frames — CALL / CALLCODE / DELEGATECALL /
STATICCALL with any values, ETX emissions, SELFDESTRUCTs, inner frames that revert or fail — executed
from any balances: the sum of all balances afterwards plus the value carried away by the emitted ETXs
plus the value destroyed equals the sum before plus only the state-rent refunds credited. -/
theorem C02_value_accounting (c : Cfg) (U : List Nat) (hU : U.Nodup) (self : Nat) (hs : self ∈ U)
    (bal : Nat → Nat) (prog : List Item) (hin : inUs U prog = true) :
    let s0 : St := { bal := bal, etxs := [], suicided := fun _ => false, minted := 0, burned := 0 }
    let s := (execItems c self false s0 prog).1
    tot U s.bal + etxSum s + s.burned = tot U bal + s.minted := by
  intro s0 s
  have := (execItems_acct c U hU prog self false s0 hs hin).1
  simp only [etxSum, s0, List.map_nil, List.sum_nil] at this ⊢
  omega

/-- in particular the balances never sum to more than before plus the refunds -/
theorem C02_never_creates_value (c : Cfg) (U : List Nat) (hU : U.Nodup) (self : Nat) (hs : self ∈ U)
    (bal : Nat → Nat) (prog : List Item) (hin : inUs U prog = true) :
    tot U (execItems c self false { bal := bal, etxs := [], suicided := fun _ => false, minted := 0, burned := 0 } prog).1.bal +
      etxSum (execItems c self false { bal := bal, etxs := [], suicided := fun _ => false, minted := 0, burned := 0 } prog).1 ≤
    tot U bal + (execItems c self false { bal := bal, etxs := [], suicided := fun _ => false, minted := 0, burned := 0 } prog).1.minted :=
  -- the accounting equation with what was burned as the slack
  Nat.le.intro (C02_value_accounting c U hU self hs bal prog hin)

/-- **C02 (a failed frame leaves every balance unchanged)** a sub-call that fails, or that reaches its
REVERT, restores the state at its entry exactly (balances, ETXs, self-destruct marks, counters). -/
theorem C02_failed_frame_restores (c : Cfg) (self : Nat) (static : Bool) (s : St) (kind : CallKind) (value addr : Nat)
    (body : List Item) (rv : Bool)
    (hfail : ∀ ctxSelf ctxStatic s1, (execItems c ctxSelf ctxStatic s1 body).2 = .fail ∨ (rv = true ∧ (execItems c ctxSelf ctxStatic s1 body).2 = .ok)) :
    (execItem c self static s (.sub kind value addr body rv)).1 = s := by
  cases kind with
  | call =>
    rw [execItem_call]
    split; · rfl
    split; · rfl
    rw [close_failed (hfail ..)]
  | callcode =>
    rw [execItem_callcode]
    split; · rfl
    rw [close_failed (hfail ..)]
  | delegate => rw [execItem_delegate, close_failed (hfail ..)]
  | static => rw [execItem_static, close_failed (hfail ..)]

/-! ### Non-vacuity -/
example : let s := (execItems { refund := 5, refundOnce := true } 1 false
      { bal := fun a => if a = 1 then 100 else 0, etxs := [], suicided := fun _ => false, minted := 0, burned := 0 }
      [.emit 10, .sub .call 20 2 [.emit 3] true]).1
    (s.bal 1, s.etxs) = (90, [(1, 10)]) := by decide

end QuaiVerif.Value
