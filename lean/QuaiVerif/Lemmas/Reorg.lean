import QuaiVerif.Model.Reorg
/-
Lemmas for C10.  Both key spaces are rolled back the same way: old values are written back from a list of records,
then the keys recorded as created are deleted (`undo`).  `undo_apply` gives the result per key; `undo_create` and
`undo_record` say when a write together with its record keeps `undo … = m0`.  The six actions are instances of
these two, and the invariant of block processing (`Inv`) is the statement of C10 for the block so far.
-/
namespace QuaiVerif.Reorg

theorem put_same (m : M) (k : K) (v : V) : put m k v k = some v := by simp [put]
theorem put_other {m : M} {k j : K} {v : V} (h : j ≠ k) : put m k v j = m j := by simp [put, h]
theorem del_same (m : M) (k : K) : del m k k = none := by simp [del]
theorem del_other {m : M} {k j : K} (h : j ≠ k) : del m k j = m j := by simp [del, h]

theorem mem_keys {k : K} {v : V} {l : List (K × V)} (h : (k, v) ∈ l) : k ∈ keys l :=
  List.mem_map.mpr ⟨(k, v), h, rfl⟩

theorem lookup_reverse_eq_none {k : K} {l : List (K × V)} : l.reverse.lookup k = none ↔ k ∉ keys l := by
  rw [List.lookup_eq_none_iff, keys, List.mem_map]
  exact ⟨fun h ⟨p, hp, e⟩ => by simpa [e] using h p (List.mem_reverse.mpr hp),
    fun h p hp => by simpa using fun e => h ⟨p, List.mem_reverse.mp hp, e.symm⟩⟩

/-- What `rollback` does to one key space: write the recorded old values back in list order, then delete the
keys recorded as created. -/
def undo (fresh : List K) (olds : List (K × V)) (m : M) : M :=
  fresh.foldl del (olds.foldl (fun m kv => put m kv.1 kv.2) m)

theorem foldl_put (l : List (K × V)) (m : M) (k : K) :
    (l.foldl (fun m kv => put m kv.1 kv.2) m) k = (l.reverse.lookup k).or (m k) := by
  induction l generalizing m with
  | nil => rfl
  | cons kv t ih =>
    rw [List.foldl_cons, ih, List.reverse_cons, List.lookup_append, Option.or_assoc, List.lookup_singleton]
    by_cases h : k = kv.1 <;> simp [put, h]

theorem foldl_del (l : List K) (m : M) (k : K) : (l.foldl del m) k = if k ∈ l then none else m k := by
  induction l generalizing m with
  | nil => rfl
  | cons a t ih =>
    rw [List.foldl_cons, ih]
    by_cases h : k = a <;> simp [del, h]

/-- Per key: a created key ends absent; otherwise the last record for the key wins; without one the key keeps
its value. -/
theorem undo_apply (fresh : List K) (olds : List (K × V)) (m : M) (k : K) :
    undo fresh olds m k = if k ∈ fresh then none else (olds.reverse.lookup k).or (m k) := by
  rw [undo, foldl_del, foldl_put]

theorem undo_create {m0 m : M} {fresh : List K} {olds : List (K × V)} (h : undo fresh olds m = m0)
    {k : K} (v : V) (h0 : m0 k = none) : undo (fresh ++ [k]) olds (put m k v) = m0 := by
  funext j
  by_cases hj : j = k
  · subst hj; rw [undo_apply, if_pos (List.mem_append_right _ (List.mem_singleton_self j)), h0]
  · rw [← h, undo_apply, undo_apply, put_other hj]; simp [hj]

/-- A write to `k` together with its record keeps `undo … = m0`.  `f` is the map after the write (it agrees with `m`
off `k`), `(k, w)` the record, which joins the records between `A` and `B`; `hw` says that `w` is what undoing must give
at `k` unless a record in `B`, written back after it, decides otherwise, or the block created `k`. -/
theorem undo_record {m0 m f : M} {fresh : List K} {A B : List (K × V)} (h : undo fresh (A ++ B) m = m0)
    {k : K} {w : V} (hf : ∀ j, j ≠ k → f j = m j)
    (hw : k ∉ fresh → B.reverse.lookup k = none → m0 k = some w) : undo fresh (A ++ (k, w) :: B) f = m0 := by
  funext j
  have hj := congrFun h j
  simp only [undo_apply, List.reverse_append, List.reverse_cons, List.lookup_append, List.lookup_singleton] at hj ⊢
  by_cases hm : j ∈ fresh
  · rwa [if_pos hm] at hj ⊢
  rw [if_neg hm] at hj ⊢
  by_cases e : j = k
  · -- at `k` a later record decides, as before; without one the new record does
    subst e
    cases hB : B.reverse.lookup j with
    | some w' => rw [← hj, hB]; rfl
    | none => rw [hw hm hB]; simp
  · rw [← hj, hf j e]; simp [e]

theorem undo_untouched {m0 m : M} {fresh : List K} {olds : List (K × V)} (h : undo fresh olds m = m0)
    {k : K} (hf : k ∉ fresh) (hk : k ∉ keys olds) : m0 k = m k := by
  rw [← h, undo_apply, if_neg hf, lookup_reverse_eq_none.mpr hk]; rfl

theorem undo_absent {m0 m : M} {fresh : List K} {olds : List (K × V)} (h : undo fresh olds m = m0)
    {k : K} (hm : m k = none) (hk : k ∉ keys olds) : m0 k = none := by
  rw [← h, undo_apply]
  split
  · rfl
  · rw [lookup_reverse_eq_none.mpr hk, hm]; rfl

/-- The invariant of block processing is C10 itself, read per key space: undoing now gives the pre-block map.
For the output space it needs one more fact, that a key with a record is absent now: a key that is being spent, present
now, therefore has no record yet (a key that is trimmed may have one: it holds the same pre-block value). -/
def Inv (s0 : St) (p : St × Undo) : Prop :=
  undo p.2.created (p.2.spent ++ p.2.trimmed) p.1.ut = s0.ut ∧
  undo p.2.newLocks p.2.delLocks.reverse p.1.cl = s0.cl ∧
  ∀ k ∈ keys (p.2.spent ++ p.2.trimmed), p.1.ut k = none

theorem inv_init (s0 : St) : Inv s0 (s0, {}) := ⟨rfl, rfl, fun _ h => nomatch h⟩

/-- `spendU` and `trimU`: `k` is deleted and `(k, w)` joins the records, after `spent` or at the very end.  Where it
joins does not matter: unless the block created `k`, `w` is its pre-block value, whatever later records say. -/
theorem undo_remove {m0 m : M} {fresh : List K} {olds A B : List (K × V)} {k : K} {w : V}
    (h : undo fresh olds m = m0) (hg : ∀ j ∈ keys olds, m j = none) (hAB : olds = A ++ B)
    (hw : k ∉ fresh → m0 k = some w) :
    undo fresh (A ++ (k, w) :: B) (del m k) = m0 ∧ ∀ j ∈ keys (A ++ (k, w) :: B), del m k j = none := by
  subst hAB
  refine ⟨undo_record h (fun _ => del_other) fun hc _ => hw hc, fun j hj => ?_⟩
  by_cases e : j = k
  · rw [e, del_same]
  · rw [del_other e]
    exact hg j ((List.mem_cons.mp ((List.perm_middle.map Prod.fst).mem_iff.mp hj)).resolve_left e)

/-- `lockReplace` and `lockDelete`: the record is overwritten and its old value joins `delLocks`. -/
theorem undo_modify {m0 m f : M} {fresh : List K} {olds : List (K × V)} {k : K} {old : V}
    (h : undo fresh olds.reverse m = m0) (hf : ∀ j, j ≠ k → f j = m j) (hv : m k = some old) :
    undo fresh (olds ++ [(k, old)]).reverse f = m0 := by
  rw [List.reverse_append]
  exact undo_record (A := []) h hf fun hn hB => (undo_untouched h hn (lookup_reverse_eq_none.mp hB)).trans hv

theorem inv_step {s0 : St} {p : St × Undo} {a : Act} (h : Inv s0 p) (ok : actOK s0 p a) : Inv s0 (applyAct s0 p a) := by
  obtain ⟨hU, hL, hg⟩ := h
  -- `Inv` is unfolded together with `applyAct` so that the projections of the new pair are reduced before its three
  -- parts are matched; matching them unreduced costs as much again as the rest of the proof
  cases a with
  | createU k v =>
    obtain ⟨h0, _, hs, ht⟩ := ok
    have hk : k ∉ keys (p.2.spent ++ p.2.trimmed) := by
      rw [keys, List.map_append, List.mem_append]; exact not_or.mpr ⟨hs, ht⟩
    simp only [applyAct, Inv]
    exact ⟨undo_create hU v h0, hL, fun j hj => (put_other (ne_of_mem_of_not_mem hj hk)).trans (hg j hj)⟩
  | spendU k =>
    obtain ⟨v, hv⟩ := Option.ne_none_iff_exists'.mp ok
    have hk : k ∉ keys (p.2.spent ++ p.2.trimmed) := fun hk => by rw [hg k hk] at hv; cases hv
    have ⟨h1, h2⟩ := undo_remove hU hg rfl fun hc => (undo_untouched hU hc hk).trans hv
    simp only [applyAct, hv, Inv]
    rw [List.append_assoc]   -- `(spent ++ [(k, v)]) ++ trimmed` is `spent ++ (k, v) :: trimmed`
    exact ⟨h1, hL, h2⟩
  | trimU k =>
    obtain ⟨v, hv⟩ := Option.ne_none_iff_exists'.mp ok.1
    have ⟨h1, h2⟩ := undo_remove (B := []) hU hg (List.append_nil _).symm fun _ => hv
    simp only [applyAct, hv, Inv]
    rw [← List.append_assoc]   -- `spent ++ (trimmed ++ [(k, v)])` is `(spent ++ trimmed) ++ (k, v) :: []`
    exact ⟨h1, hL, h2⟩
  | lockNew k v =>
    simp only [applyAct, Inv]
    refine ⟨hU, undo_create hL v (undo_absent hL ok.1 ?_), hg⟩
    rw [keys, List.map_reverse, List.mem_reverse]; exact ok.2
  | lockReplace k v =>
    obtain ⟨old, hv⟩ := Option.ne_none_iff_exists'.mp ok
    simp only [applyAct, hv, Inv]
    exact ⟨hU, undo_modify hL (fun _ => put_other) hv, hg⟩
  | lockDelete k =>
    obtain ⟨old, hv⟩ := Option.ne_none_iff_exists'.mp ok
    simp only [applyAct, hv, Inv]
    exact ⟨hU, undo_modify hL (fun _ => del_other) hv, hg⟩

theorem inv_run {s0 : St} (acts : List Act) (p : St × Undo) (h : Inv s0 p) (ok : actsOK s0 p acts) :
    Inv s0 (runFrom s0 p acts) := by
  induction acts generalizing p with
  | nil => exact h
  | cons a as ih => exact ih _ (inv_step h ok.1) ok.2

end QuaiVerif.Reorg
