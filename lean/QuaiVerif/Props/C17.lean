import QuaiVerif.Lemmas.KV
import QuaiVerif.Gen.Backends
import QuaiVerif.Lemmas.List
/-
C17 — All storage backends are interchangeable.

The store as a map is Lemmas/KV.lean; this file has the refinement of histories, the batch and the backends.
The model (Model/KV.lean) is tied to the code by (T1) Gen/Backends.lean, regenerated from the batch types'
`SetPending`/`GetPending` bodies on every run, and (T2) the lock-step correspondence run of `qvh kv` against
`qvdriver kv`.
-/
namespace QuaiVerif.KV

/-! ### (1) Refinement to a map: reads see the latest committed write, for every history -/

abbrev Spec := Key → Option Val

def specOp (f : Spec) : BOp → Spec
  | .put k v => fun x => if x = k then some v else f x
  | .del k => fun x => if x = k then none else f x

/-- A committed-history event: a direct put/delete or the commit of a batch. -/
inductive DbOp where
  | put (k : Key) (v : Val)
  | del (k : Key)
  | commit (ops : List BOp)

def runDb (s : Store) : DbOp → Store
  | .put k v => insert k v s
  | .del k => erase k s
  | .commit ops => ops.foldl applyOp s

def specDb (f : Spec) : DbOp → Spec
  | .put k v => specOp f (.put k v)
  | .del k => specOp f (.del k)
  | .commit ops => ops.foldl specOp f

theorem get_applyOp (s : Store) : (op : BOp) → specOp (get s) op = get (applyOp s op)
  | .put k v => (get_insert k v s).symm
  | .del k => (get_erase k s).symm

theorem get_runDb (s : Store) : (op : DbOp) → specDb (get s) op = get (runDb s op)
  | .put k v => get_applyOp s (.put k v)
  | .del k => get_applyOp s (.del k)
  | .commit _ => List.foldl_hom get get_applyOp

theorem sorted_runDb {s : Store} (hs : Sorted s) : (op : DbOp) → Sorted (runDb s op)
  | .put k v => sorted_applyOp hs (.put k v)
  | .del k => sorted_applyOp hs (.del k)
  | .commit ops => List.foldlRecOn ops applyOp hs fun _ hs op _ => sorted_applyOp hs op

/-- **C17(1)** For every history of direct writes and batch commits, every read of the store is the
read of the abstract map (so reads see the latest committed write), and the store stays strictly
ascending (which is what makes iteration order a function of content). -/
theorem C17_refines_map (h : List DbOp) (s : Store) (hs : Sorted s) :
    Sorted (h.foldl runDb s) ∧ ∀ k, get (h.foldl runDb s) k = h.foldl specDb (get s) k :=
  ⟨List.foldlRecOn h runDb hs fun _ hs op _ => sorted_runDb hs op,
   fun k => (congrFun (List.foldl_hom get get_runDb) k).symm⟩

/-- `Has` agrees with `Get`. -/
theorem C17_has_iff_get (s : Store) (k : Key) : has s k = true ↔ ∃ v, get s k = some v :=
  Option.isSome_iff_exists

/-! ### (2) Iteration: ascending, exactly the live keys with the prefix and ≥ prefix++start -/

theorem C17_iter_exact (s : Store) (hs : Sorted s) (p st : Key) :
    Sorted (iter s p st) ∧
    ∀ k v, (k, v) ∈ iter s p st ↔ (get s k = some v ∧ p <+: k ∧ p ++ st ≤ k) := by
  refine ⟨List.Pairwise.filter _ hs, ?_⟩
  intro k v
  unfold iter inRange
  rw [List.mem_filter, mem_iff_get hs]
  simp [List.isPrefixOf_iff_prefix]

/-- each live key at most once (strictly ascending ⇒ no duplicates). -/
theorem C17_iter_nodup (s : Store) (hs : Sorted s) (p st : Key) :
    ((iter s p st).map (·.1)).Nodup := by
  rw [List.Nodup, List.pairwise_map]
  exact List.Pairwise.imp Std.ne_of_lt (C17_iter_exact s hs p st).1

/-! ### (3) A batch applies all its operations in issue order -/

/-- the calls issued on a batch -/
def issue (tracks : Bool) (b : Batch) : List BOp → Batch
  | [] => b
  | .put k v :: t => issue tracks (b.put tracks k v) t
  | .del k :: t => issue tracks (b.del tracks k) t

/-- What a tracking batch remembers of a call. -/
def BOp.entry : BOp → Key × Option Val
  | .put k v => (k, some v)
  | .del k => (k, none)

/-- `issue` in closed form: the calls join `ops` in order and, when tracked, the pending view newest first. -/
theorem issue_eq (tracks : Bool) (b : Batch) (calls : List BOp) :
    issue tracks b calls =
      { b with
        ops := b.ops ++ calls
        pend := if tracks && b.tracking then (calls.map BOp.entry).reverse ++ b.pend else b.pend } := by
  induction calls generalizing b with
  | nil => simp [issue]
  | cons c t ih =>
    have step : issue tracks b (c :: t) = issue tracks { b with
        ops := b.ops ++ [c]
        pend := if tracks && b.tracking then c.entry :: b.pend else b.pend } t := by cases c <;> rfl
    rw [step, ih]
    cases tracks && b.tracking <;> simp

theorem C17_write_in_issue_order (tracks : Bool) (s : Store) (calls : List BOp) :
    ((issue tracks {} calls).write s).1 = calls.foldl applyOp s := by
  simp [Batch.write, issue_eq]

/-! ### (4) Read-your-writes in a tracking batch -/

/-- what `GetPending` must answer: the newest operation on `k` since `SetPending(true)` -/
def newestOn (k : Key) (calls : List BOp) : Option BOp :=
  calls.reverse.find? (fun op => match op with | .put k' _ => k = k' | .del k' => k = k')

theorem newestOn_eq (k : Key) (calls : List BOp) :
    newestOn k calls = calls.reverse.find? fun op => k == op.entry.1 := by
  rw [newestOn]; congr; funext op; cases op <;> exact (Bool.beq_eq_decide_eq ..).symm

/-- **C17(4)** A batch with pending tracking enabled reports its own uncommitted puts and deletes:
after `SetPending(true)` and any sequence of calls, `GetPending k` is the newest call on `k`
(`(false, v)` for a put of `v`, `(true, nil)` for a delete, `(false, nil)` when there is none). -/
theorem C17_read_your_writes (b : Batch) (calls : List BOp) (k : Key) :
    (issue true (b.setPending true true) calls).getPending k =
      match newestOn k calls with
      | some (.put _ v) => (false, some v)
      | some (.del _) => (true, none)
      | none => (false, none) := by
  rw [issue_eq, Batch.getPending, newestOn_eq]
  simp only [Batch.setPending, if_true, Bool.and_self, List.append_nil, ← List.map_reverse, lookup_map]
  cases List.find? _ calls.reverse with
  | none => rfl
  | some op => cases op <;> rfl

/-- For a batch type that does *not* track (the defect recorded as S1 / fixed), the same sequence
answers "nothing pending": the concrete counterexample replayed on the implementation. -/
theorem C17_counterexample_untracked :
    (issue false (({} : Batch).setPending false true) [.put [1] [2]]).getPending [1] = (false, none)
    ∧ (issue true (({} : Batch).setPending true true) [.put [1] [2]]).getPending [1] = (false, some [2]) := by
  decide

/-- **C17(4′)** every backend's batch type in the current source tree tracks pending writes
(regenerated fact; `decide` over the generated table). -/
theorem C17_all_backends_track : ∀ b ∈ Gen.backends, b.2 = true := by decide

/-! ### (5) Reset and replay -/

theorem C17_replay_is_issue_order (tracks : Bool) (calls : List BOp) :
    (issue tracks {} calls).replay = calls := by
  simp [Batch.replay, issue_eq]

theorem C17_reset_empties (b : Batch) (s : Store) :
    (b.reset.write s).1 = s ∧ b.reset.replay = [] := by
  simp [Batch.reset, Batch.write, Batch.replay]

/-- writing the pending view away does not change what is replayed or written -/
theorem C17_write_keeps_ops (s : Store) (b : Batch) : (b.write s).2.ops = b.ops := rfl

/-! ### (6) Backend independence: the committed store is a function of the history alone -/

theorem C17_backend_independent (t1 t2 : Bool) (s : Store) (calls : List BOp) :
    ((issue t1 {} calls).write s).1 = ((issue t2 {} calls).write s).1 := by
  simp [C17_write_in_issue_order]

/-! ### Non-vacuity -/
example : Sorted [([1], [9]), ([1, 2], []), ([2], [7])] := by
  unfold Sorted; decide
example : iter [([1], [9]), ([1, 2], []), ([2], [7])] [1] [2] = [([1, 2], [])] := by decide
example : newestOn [1] [.put [1] [2], .del [1], .put [3] []] = some (.del [1]) := by decide

end QuaiVerif.KV
