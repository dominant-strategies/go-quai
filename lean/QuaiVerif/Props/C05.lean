import QuaiVerif.Model.Etx
import QuaiVerif.Model.Create
import QuaiVerif.Gen.EtxExits
/-
C05 — Sending value off-chain is all-or-nothing at the origin.
Model: Model/Etx.lean, Model/Create.lean (contract creation frames, second half of the file). Tie: T1
Gen/EtxExits.lean (exit discipline of opETX / opConvert / CreateETX regenerated from the source) and T2 area `evm`
(real interpreter on generated contracts).
-/
namespace QuaiVerif.Etx

/-- all-or-nothing for one outcome: a status word is always produced; success ⇒ exactly one ETX
under the fresh index `cacheLen` carrying `value`, and a debit; failure ⇒ no debit, no ETX. -/
def AllOrNothing (o : Out) (value cacheLen : Nat) : Prop :=
  (o.status = some 1 ∧ (∃ g, o.etx = some (value, cacheLen, g)) ∧ o.debit ≥ value ∧ o.debit > 0) ∨
  (o.status = some 0 ∧ o.etx = none ∧ o.debit = 0)

theorem fail_aon {v n : Nat} : AllOrNothing fail v n := Or.inr ⟨rfl, rfl, rfl⟩

/-! ### What passing each test gives (the tests are long disjunctions in code order: taken apart once) -/

theorem etx_passes {c : Cfg} {i : EtxIn} (h : etxFails c i = false) :
    etxTotal c i ≠ 0 ∧ etxTotal c i ≤ i.balance ∧ i.gasLimit ≤ maxU64 := by
  simp only [etxFails, Bool.or_eq_false_iff, Bool.and_eq_false_iff, decide_eq_false_iff_not, Bool.not_eq_false',
    decide_eq_true_eq] at h
  -- the bound on the gas-limit word is tested on either side of the fork
  omega

theorem conv_passes {c : Cfg} {i : ConvIn} (h : convFails c i = false) :
    convTotal c i ≠ 0 ∧ convTotal c i ≤ i.balance ∧ c.minConv ≤ i.value ∧
      (c.pt ≥ c.selfDestructFork → i.gasLimit ≤ maxU64) := by
  simp only [convFails, Bool.or_eq_false_iff, Bool.and_eq_false_imp, decide_eq_false_iff_not, decide_eq_true_eq] at h
  omega

theorem call_passes {c : Cfg} {i : CallIn} (h : callFails c i = false) : i.value ≤ i.balance := by
  simp only [callFails, Bool.or_eq_false_iff, decide_eq_false_iff_not] at h
  omega

theorem gas_word {g : Nat} (h : g ≤ maxU64) : g % 2 ^ 64 = g := Nat.mod_eq_of_lt (Nat.lt_succ_of_le h)

/-- **C05 (ETX opcode, post-fork regime).** Every execution of the ETX opcode is all-or-nothing,
and on success the debit is exactly value + (tip + feeCap)·gasLimit, covered by the balance. -/
theorem C05_opETX_all_or_nothing (c : Cfg) (i : EtxIn) (hp : c.pt ≥ c.selfDestructFork) :
    AllOrNothing (opETX c i) i.value i.cacheLen ∧
    ((opETX c i).status = some 1 → (opETX c i).debit = i.value + (i.tip + i.feeCap) * i.gasLimit ∧ (opETX c i).debit ≤ i.balance) := by
  unfold opETX
  cases hf : etxFails c i
  · have ⟨h0, hb, _⟩ := etx_passes hf
    have ht : etxTotal c i = i.value + (i.tip + i.feeCap) * i.gasLimit := by simp [etxTotal, hp]
    exact ⟨Or.inl ⟨rfl, ⟨_, rfl⟩, ht ▸ Nat.le_add_right .., Nat.pos_of_ne_zero h0⟩, fun _ => ⟨ht, hb⟩⟩
  · exact ⟨fail_aon, fun h => by cases h⟩

/-- **C05 (ETX opcode, any regime) — partial:** before the fork the code's uint256 arithmetic wraps,
so "debit = value + fee" needs a no-overflow hypothesis; that a status word is always pushed and that
failure means neither debit nor ETX holds in every regime. -/
theorem C05_opETX_all_or_nothing_partial (c : Cfg) (i : EtxIn) :
    ((opETX c i).status = some 1 ∧ (∃ g, (opETX c i).etx = some (i.value, i.cacheLen, g)) ∧ (opETX c i).debit ≤ i.balance) ∨
    ((opETX c i).status = some 0 ∧ (opETX c i).etx = none ∧ (opETX c i).debit = 0) := by
  unfold opETX
  cases hf : etxFails c i
  · exact Or.inl ⟨rfl, ⟨_, rfl⟩, (etx_passes hf).2.1⟩
  · exact Or.inr ⟨rfl, rfl, rfl⟩

/-- **C05 (CONVERT opcode).** -/
theorem C05_opConvert_all_or_nothing (c : Cfg) (i : ConvIn) (hp : c.pt ≥ c.selfDestructFork) :
    AllOrNothing (opConvert c i) i.value i.cacheLen ∧
    ((opConvert c i).status = some 1 → (opConvert c i).debit = i.value + i.gasPrice * i.gasLimit ∧ i.value ≥ c.minConv) := by
  unfold opConvert
  cases hf : convFails c i
  · have ⟨h0, _, hm, _⟩ := conv_passes hf
    have ht : convTotal c i = i.value + i.gasPrice * i.gasLimit := by simp [convTotal, hp]
    exact ⟨Or.inl ⟨rfl, ⟨_, rfl⟩, ht ▸ Nat.le_add_right .., Nat.pos_of_ne_zero h0⟩, fun _ => ⟨ht, hm⟩⟩
  · exact ⟨fail_aon, fun h => by cases h⟩

/-- **C05 (the ETX carries the gas that was paid for).** In the post-fork regime a successful ETX / CONVERT records an
outbound transaction whose gas limit is exactly the gas-limit word the sender named and prepaid - the word fits 64 bits,
nothing is truncated.  For the ETX opcode this holds in every regime. -/
theorem C05_etx_gas_is_the_paid_gas (c : Cfg) (i : EtxIn) (h : (opETX c i).status = some 1) :
    (opETX c i).etx = some (i.value, i.cacheLen, i.gasLimit) := by
  unfold opETX at h ⊢
  cases hf : etxFails c i
  · rw [gas_word (etx_passes hf).2.2]; rfl
  · rw [hf] at h; cases h

theorem C05_convert_gas_is_the_paid_gas (c : Cfg) (i : ConvIn) (hp : c.pt ≥ c.selfDestructFork)
    (h : (opConvert c i).status = some 1) : (opConvert c i).etx = some (i.value, i.cacheLen, i.gasLimit) := by
  unfold opConvert at h ⊢
  cases hf : convFails c i
  · rw [gas_word ((conv_passes hf).2.2.2 hp)]; rfl
  · rw [hf] at h; cases h

/-- **Finding (legacy regime, CONVERT).** Before the fork the CONVERT opcode has no upper bound on the gas-limit word:
a word of 2^64 + 21000 succeeds, the sender is charged for all of it and the outbound transaction carries 21000. -/
theorem C05_counterexample_legacy_convert_gas_word :
    let c : Cfg := { pt := 10, selfDestructFork := 100, controllerKickIn := 5, kawpowFork := 1000, shaFork := 2000, holdInterval := 10,
                     txGas := 21000, etxGas := 21000, minConv := 50 }
    let i : ConvIn := { toInScope := true, toQi := true, value := 60, gasLimit := 2 ^ 64 + 21000, gasPrice := 1,
                        balance := 2 ^ 65, cacheLen := 0 }
    (opConvert c i).status = some 1 ∧ (opConvert c i).debit = 60 + (2 ^ 64 + 21000) ∧ (opConvert c i).etx = some (60, 0, 21000) := by
  decide

/-- **C05 (plain call to an out-of-scope address).** debit = value exactly. -/
theorem C05_createETX_all_or_nothing (c : Cfg) (i : CallIn) :
    ((createETX c i).status = some 1 ∧ (∃ g, (createETX c i).etx = some (i.value, i.cacheLen, g)) ∧ (createETX c i).debit = i.value ∧ i.value ≤ i.balance) ∨
    ((createETX c i).status = some 0 ∧ (createETX c i).etx = none ∧ (createETX c i).debit = 0) := by
  unfold createETX
  cases hf : callFails c i
  · exact Or.inl ⟨rfl, ⟨_, rfl⟩, rfl, call_passes hf⟩
  · exact Or.inr ⟨rfl, rfl, rfl⟩

/-! ### The outbound set of a transaction = sends of its non-reverted frames, in order -/

mutual
theorem runAct_eq (cache : List Nat) : ∀ a : Act, runAct cache a = cache ++ committed a
  | .emit _ => rfl
  | .frame _ true => (List.append_nil cache).symm
  | .frame body false => runActs_eq cache body
theorem runActs_eq (cache : List Nat) : ∀ as : List Act, runActs cache as = cache ++ committedL as
  | [] => (List.append_nil cache).symm
  | a :: as => by
    show runActs (runAct cache a) as = cache ++ (committed a ++ committedL as)
    rw [runAct_eq cache a, runActs_eq _ as, List.append_assoc]
end

/-- **C05 (block level).** The ETX cache handed to the receipt after executing any tree of call
frames is exactly the list of sends recorded by successful, non-reverted frames, in execution order. -/
theorem C05_outbound_is_committed_sends (as : List Act) : runActs [] as = committedL as :=
  (runActs_eq [] as).trans (List.nil_append _)

/-! ### T1: exit discipline of the current source -/

/-- every exit of `opETX`/`opConvert` after the stack pops pushes a status word, and no failure exit
lies after the debit — regenerated from instructions.go. (The one exit that pushes nothing, the
`InternalAndQuaiAddress` error on the executing contract's own address, is unreachable and listed
separately.)  For `CreateETX` an exit after the debit either succeeds or returns an error, which makes `Call` revert. -/
theorem C05_exit_discipline :
    Gen.opETXExits.all (fun e => (e.pushes || e.unreachableSenderErr) && (!e.afterDebit || e.success)) = true ∧
    Gen.opConvertExits.all (fun e => (e.pushes || e.unreachableSenderErr) && (!e.afterDebit || e.success)) = true ∧
    Gen.createETXExits.all (fun e => !e.afterDebit || e.success || e.isError) = true := by
  decide

/-! ### Non-vacuity -/
def exCfg : Cfg where
  pt := 2000000
  selfDestructFork := 1919500
  controllerKickIn := 262000
  kawpowFork := 1171500
  shaFork := 1755000
  holdInterval := 20000
  minConv := 10

def exIn : EtxIn where
  toInScope := false
  value := 1000
  gasLimit := 21000
  tip := 1
  feeCap := 1
  balance := 100000
  cacheLen := 0
  accessListOk := true
  accessListSize := 0
  eligible := true

example : opETX exCfg exIn = { status := some 1, debit := 43000, etx := some (1000, 0, 21000) } := by decide

end QuaiVerif.Etx

/-! ### contract creation frames -/
namespace QuaiVerif.Create

/-- the ways a creation ends: refused or undone, and nothing has happened; or the constructor's frame is kept and the
verdict is whether what it returned is accepted - kept also for `storeoog`, which is not -/
theorem create_cases (s : St) (endow ev : Nat) (emit : Bool) (e : Ending) :
    create s endow ev emit e = (s, false) ∨
    (create s endow ev emit e = (inner s endow ev emit, e.accepted) ∧ endow ≤ s.creator ∧
      (e.accepted = true ∨ e = .storeoog)) := by
  unfold create
  split
  · exact .inl rfl
  · next h1 =>
    split
    · next h2 => exact .inr ⟨by rw [h2], Nat.le_of_not_lt h1, .inl h2⟩
    · next h2 =>
      split
      · next h3 => exact .inr ⟨by rw [Bool.eq_false_iff.mpr h2], Nat.le_of_not_lt h1, .inr h3⟩
      · exact .inl rfl

/-- **C05 (creation is all-or-nothing)** a creation either reports failure and leaves the state exactly as it was -
no debit, no outbound ETX, no account - or reports success, and then the creator was debited exactly the endowment
and exactly the constructor's ETX (if any) was recorded. -/
theorem C05_create_all_or_nothing_partial (s : St) (endow ev : Nat) (emit : Bool) (e : Ending) (he : e ≠ .storeoog) :
    (create s endow ev emit e = (s, false)) ∨
    ((create s endow ev emit e).2 = true ∧ endow ≤ s.creator ∧ e.accepted = true ∧
      (create s endow ev emit e).1.creator = s.creator - endow ∧
      (create s endow ev emit e).1.etxs = (if emit then s.etxs ++ [ev] else s.etxs)) := by
  rcases create_cases s endow ev emit e with h | ⟨h, hc, ha⟩
  · exact Or.inl h
  · have ha := ha.resolve_right he
    rw [h]; exact Or.inr ⟨ha, hc, ha, rfl, rfl⟩

/-- a creation whose constructor result is not acceptable (REVERT, error, 0xEF prefix, oversized code) never succeeds
and leaves nothing behind -/
theorem C05_create_rejected_endings_fail (s : St) (endow ev : Nat) (emit : Bool) (e : Ending) (h : e.accepted = false)
    (he : e ≠ .storeoog) : create s endow ev emit e = (s, false) := by
  rcases create_cases s endow ev emit e with h' | ⟨_, _, ha | ha⟩
  · exact h'
  · rw [h] at ha; cases ha
  · exact absurd ha he

/-- **Finding (code-store out of gas).** The full statement - every failed creation leaves nothing behind - is false of
the code: a constructor that returns code it cannot pay the deposit for makes the creation report failure while the
endowment stays moved, the account stays created and the constructor's ETX stays recorded. -/
theorem C05_counterexample_code_store_out_of_gas :
    create ⟨500, 0, false, []⟩ 300 120 true .storeoog = (⟨200, 180, true, [120]⟩, false) := by decide

theorem inner_total (s : St) (endow ev : Nat) (emit : Bool) (hev : ev ≤ s.created + endow) (he : endow ≤ s.creator) :
    total (inner s endow ev emit) = total s := by
  cases emit
  · show s.creator - endow + (s.created + endow) + s.etxs.sum = s.creator + s.created + s.etxs.sum
    omega
  · show s.creator - endow + (s.created + endow - ev) + (s.etxs ++ [ev]).sum = s.creator + s.created + s.etxs.sum
    rw [List.sum_append, List.sum_singleton]
    omega

/-- **C02 (creation creates no value)** what the creator, the created account and the recorded ETXs hold together is
unchanged by a creation - also by the one that fails without being undone - provided the constructor sends no more than
the account holds. -/
theorem C02_create_conserves_value (s : St) (endow ev : Nat) (emit : Bool) (e : Ending) (hev : ev ≤ s.created + endow) :
    total (create s endow ev emit e).1 = total s := by
  rcases create_cases s endow ev emit e with h | ⟨h, hc, _⟩ <;> rw [h]
  exact inner_total s endow ev emit hev hc

example : create ⟨500, 0, false, []⟩ 300 120 true .code = (⟨200, 180, true, [120]⟩, true) ∧
          create ⟨500, 0, false, []⟩ 300 120 true .ef = (⟨500, 0, false, []⟩, false) ∧
          create ⟨100, 0, false, []⟩ 300 120 true .stop = (⟨100, 0, false, []⟩, false) := by decide

end QuaiVerif.Create
