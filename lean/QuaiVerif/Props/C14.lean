import QuaiVerif.Model.Proto
/-
C14 — Encode/decode round trips preserve objects, bytes and identity.
Wire-level theorems for the protobuf encoding used by every go-quai wire / database object; the
per-type glue (ProtoEncode / ProtoDecode, hashes, JSON, rawdb) is tied by the `codec` area.
-/
namespace QuaiVerif.Proto

theorem encodeVarint_ne_nil (n : Nat) : encodeVarint n ≠ [] := by
  rw [encodeVarint]; split <;> exact List.cons_ne_nil _ _

/-- **C14 (varint)** decoding the encoding of any natural number yields it and the untouched rest. -/
theorem C14_varint_roundtrip (n : Nat) (rest : Bytes) :
    decodeVarint (encodeVarint n ++ rest) = some (n, rest) := by
  fun_induction encodeVarint n with
  | case1 n h => rw [List.singleton_append, decodeVarint, if_pos h]
  | case2 n h ih =>
    rw [List.cons_append, decodeVarint, if_neg (Nat.not_lt.2 (Nat.le_add_left ..)), ih]
    simp only [Nat.add_sub_cancel, Nat.mod_add_div]

theorem wireType_lt (v : WVal) : wireType v < 8 := by cases v <;> simp only [wireType] <;> decide

theorem tag_div_mod (num : Nat) (v : WVal) :
    (num * 8 + wireType v) / 8 = num ∧ (num * 8 + wireType v) % 8 = wireType v := by
  rw [Nat.mul_comm, Nat.mul_add_div (by decide), Nat.mul_add_mod, Nat.div_eq_of_lt (wireType_lt v),
    Nat.mod_eq_of_lt (wireType_lt v)]
  exact ⟨rfl, rfl⟩

theorem payload_split (b rest : Bytes) :
    ¬ (b ++ rest).length < b.length ∧ (b ++ rest).take b.length = b ∧ (b ++ rest).drop b.length = rest :=
  ⟨by rw [List.length_append]; exact Nat.not_lt.2 (Nat.le_add_right ..), List.take_left, List.drop_left⟩

theorem parseOne_serializeField (f : WField) (hf : f.wf) (rest : Bytes) :
    parseOne (serializeField f ++ rest) = some (f, rest) := by
  obtain ⟨num, val⟩ := f
  rw [serializeField, List.append_assoc, parseOne, C14_varint_roundtrip]
  -- `simp only [tag_div_mod]` would do the next two steps at three times the cost: the payload occurs in every branch
  dsimp only
  rw [(tag_div_mod num val).1, (tag_div_mod num val).2]
  cases val with
  | varint n => simp only [wireType, C14_varint_roundtrip]
  | i64 b =>
    have hb : b.length = 8 := hf
    simp only [wireType, ← hb, payload_split, if_false]
  | len b => simp only [wireType, List.append_assoc, C14_varint_roundtrip, payload_split, if_false]
  | i32 b =>
    have hb : b.length = 4 := hf
    simp only [wireType, ← hb, payload_split, if_false]

theorem serialize_cons (f : WField) (fs : List WField) : serialize (f :: fs) = serializeField f ++ serialize fs :=
  rfl

theorem serializeField_ne_nil (f : WField) : serializeField f ≠ [] :=
  List.append_ne_nil_of_left_ne_nil (encodeVarint_ne_nil _) _

theorem parseFuel_succ (k : Nat) (b : Bytes) (hb : b ≠ []) :
    parseFuel (k + 1) b = match parseOne b with
      | none => none
      | some (f, r) => match parseFuel k r with
        | some fs => some (f :: fs)
        | none => none := by
  cases b with
  | nil => exact absurd rfl hb
  | cons x xs => rfl

/-- One unit of fuel per field is enough. -/
theorem parseFuel_serialize (fs : List WField) (hf : ∀ f ∈ fs, f.wf) (fuel : Nat) (hfuel : fs.length ≤ fuel) :
    parseFuel fuel (serialize fs) = some fs := by
  induction fs generalizing fuel with
  | nil => cases fuel <;> rfl
  | cons f fs ih =>
    cases fuel with
    | zero => exact absurd hfuel (Nat.not_succ_le_zero _)
    | succ k =>
      rw [serialize_cons, parseFuel_succ k _ (List.append_ne_nil_of_left_ne_nil (serializeField_ne_nil f) _),
        parseOne_serializeField f (hf f (.head _))]
      simp only [ih (fun g hg => hf g (.tail _ hg)) k (Nat.le_of_succ_le_succ hfuel)]

theorem serialize_length_ge (fs : List WField) : fs.length ≤ (serialize fs).length := by
  induction fs with
  | nil => exact Nat.le_refl 0
  | cons f fs ih =>
    rw [serialize_cons, List.length_append, List.length_cons, Nat.add_comm]
    exact Nat.add_le_add (List.length_pos_iff.2 (serializeField_ne_nil f)) ih

/-- **C14 (wire round trip)** for every list of well-formed wire fields (any field numbers, any
varint values, any byte strings — nested messages are byte strings that round-trip by this same
theorem), `parse (serialize fs) = fs`. -/
theorem C14_wire_roundtrip (fs : List WField) (hf : ∀ f ∈ fs, f.wf) : parse (serialize fs) = some fs :=
  parseFuel_serialize fs hf _ (Nat.le_succ_of_le (serialize_length_ge fs))

/-- **C14 (canonical bytes)** re-encoding what was decoded from produced bytes yields identical bytes. -/
theorem C14_reencode_identical (fs : List WField) (hf : ∀ f ∈ fs, f.wf) :
    (parse (serialize fs)).map serialize = some (serialize fs) := by
  rw [C14_wire_roundtrip fs hf]; rfl

/-- **C14 (injectivity)** two well-formed field lists with the same encoding are equal — so, for an
injective hash `H`, objects that differ in any encoded field never share `H ∘ serialize`. -/
theorem C14_serialize_injective (fs gs : List WField) (hf : ∀ f ∈ fs, f.wf) (hg : ∀ g ∈ gs, g.wf)
    (h : serialize fs = serialize gs) : fs = gs :=
  Option.some.inj (by rw [← C14_wire_roundtrip fs hf, h, C14_wire_roundtrip gs hg])

theorem C14_hash_binds_fields {Hash : Type} (H : Bytes → Hash) (hH : Function.Injective H)
    (fs gs : List WField) (hf : ∀ f ∈ fs, f.wf) (hg : ∀ g ∈ gs, g.wf)
    (h : H (serialize fs) = H (serialize gs)) : fs = gs :=
  C14_serialize_injective fs gs hf hg (hH h)

/-! ### Non-vacuity -/
example : serialize [{ num := 1, val := .varint 300 }, { num := 2, val := .len [1, 2, 3] }] = [8, 172, 2, 18, 3, 1, 2, 3] := by
  simp [serialize, serializeField, wireType, encodeVarint]
example : parse [8, 172, 2, 18, 3, 1, 2, 3] = some [{ num := 1, val := .varint 300 }, { num := 2, val := .len [1, 2, 3] }] := by
  decide

end QuaiVerif.Proto
