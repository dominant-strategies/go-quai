/- Facts about lists (folds, sums, filters, lookups) that the property files use and core does not have. -/
namespace QuaiVerif

/-- A fold that threads a state through `f` and collects one answer per element collects the answers of `g`, if some
invariant of the state makes `f` answer as `g` does. -/
theorem foldl_answers {σ ι β : Type} (f : σ → ι → β × σ) (g : ι → β) (Inv : σ → Prop)
    (hf : ∀ s i, Inv s → (f s i).1 = g i ∧ Inv (f s i).2) (l : List ι) :
    ∀ (acc : List β) (s : σ), Inv s →
      (l.foldl (fun (st : List β × σ) i => (st.1 ++ [(f st.2 i).1], (f st.2 i).2)) (acc, s)).1 = acc ++ l.map g := by
  induction l with
  | nil => intro acc s _; exact (List.append_nil acc).symm
  | cons i t ih =>
    intro acc s hs
    rw [List.foldl_cons, ih _ _ (hf s i hs).2, (hf s i hs).1, List.append_assoc]
    rfl

theorem sum_filter_none {α : Type} (f : α → Nat) {l : List α} {p : α → Bool} (h : ∀ x ∈ l, p x = false) :
    ((l.filter p).map f).sum = 0 := by
  rw [List.filter_eq_nil_iff.2 fun x hx => by rw [h x hx]; exact Bool.false_ne_true]
  rfl

theorem sum_filter_split {α : Type} (f : α → Nat) (l : List α) {p q pq : α → Bool}
    (hor : ∀ x, pq x = (p x || q x)) (hdis : ∀ x, p x = true → q x = true → False) :
    ((l.filter pq).map f).sum = ((l.filter p).map f).sum + ((l.filter q).map f).sum := by
  induction l with
  | nil => rfl
  | cons x rest ih =>
    rw [List.filter_cons, List.filter_cons, List.filter_cons, hor x]
    cases hp : p x <;> cases hq : q x
    · exact ih
    · exact (congrArg (f x + ·) ih).trans (Nat.add_left_comm ..)
    · exact (congrArg (f x + ·) ih).trans (Nat.add_assoc ..).symm
    · exact (hdis x hp hq).elim

theorem mem_le_sum {e : Nat} {l : List Nat} (h : e ∈ l) : e ≤ l.sum := by
  induction l with
  | nil => cases h
  | cons x rest ih =>
    rw [List.sum_cons]
    rcases List.mem_cons.mp h with rfl | h
    · exact Nat.le_add_right _ _
    · exact Nat.le_trans (ih h) (Nat.le_add_left _ _)

theorem sum_set_zero (l : List Nat) (i d : Nat) (h : l[i]? = some d) : (l.set i 0).sum + d = l.sum := by
  induction l generalizing i with
  | nil => cases h
  | cons x xs ih =>
    cases i with
    | zero =>
      cases h
      show 0 + xs.sum + d = d + xs.sum
      rw [Nat.zero_add, Nat.add_comm]
    | succ i =>
      show x + (xs.set i 0).sum + d = x + xs.sum
      rw [Nat.add_assoc, ih i h]

theorem lookup_map {α β κ : Type} [BEq κ] (f : α → κ × β) (k : κ) (l : List α) :
    (l.map f).lookup k = (l.find? fun x => k == (f x).1).map fun x => (f x).2 := by
  induction l with
  | nil => rfl
  | cons c t ih => rw [List.map_cons, List.find?_cons, List.lookup_cons, ih]; cases k == (f c).1 <;> rfl

theorem all_fst_beq_snd {α : Type} [BEq α] [LawfulBEq α] (l : List (α × α)) (h : l.map (·.1) = l.map (·.2)) :
    l.all (fun p => p.1 == p.2) = true := by
  induction l with
  | nil => rfl
  | cons p l ih =>
    simp only [List.map_cons, List.cons.injEq] at h
    simp only [List.all_cons, h.1, beq_self_eq_true, ih h.2, Bool.and_self]

theorem any_and_right {α : Type} (l : List α) (p q : α → Bool) : l.any (fun a => p a && q a) = (l.filter q).any p := by
  rw [List.any_filter]; congr; funext a; exact Bool.and_comm ..

end QuaiVerif
