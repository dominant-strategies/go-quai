import QuaiVerif.Lemmas.State
import QuaiVerif.Gen.Journal
/-
C12 — A failed or reverted call frame leaves no trace.
Model: Model/State.lean (journalled StateDB mutators, nested snapshot/revert frames).
Tie: T1 Gen/Journal.lean (journal entry kinds and what each `revert` restores, regenerated from
journal.go / statedb.go) and T2 area `state` (random nested programs on the real StateDB; dump and
IntermediateRoot compared at every revert).
-/
namespace QuaiVerif.State

/-- `t` extends `s`'s journal and reverting `t` to `s`'s journal length gives back exactly `s`
(every component: accounts incl. storage, size counters, suicide marks, refund, logs, access list,
transient storage). -/
def Good (s t : St) : Prop :=
  (∃ ext, t.journal = ext ++ s.journal) ∧ revertTo s.journal.length t = s

theorem good_refl (s : St) : Good s s := ⟨⟨[], rfl⟩, revertTo_stop (Nat.le_refl _)⟩

theorem good_trans {s t u : St} (h1 : Good s t) (h2 : Good t u) : Good s u := by
  obtain ⟨⟨e1, j1⟩, r1⟩ := h1
  obtain ⟨⟨e2, j2⟩, r2⟩ := h2
  refine ⟨⟨e2 ++ e1, by rw [j2, j1, List.append_assoc]⟩, ?_⟩
  have hle : s.journal.length ≤ t.journal.length := by rw [j1]; simp
  rw [← revertTo_trans s.journal.length t.journal.length u hle, r2, r1]

theorem good_push1 {s t : St} {e : Entry} (hj : t.journal = e :: s.journal)
    (hu : undo { t with journal := s.journal } e = s) : Good s t := by
  refine ⟨⟨[e], by simp [hj]⟩, ?_⟩
  rw [revertTo_cons hj (Nat.le_refl _), hu]
  exact revertTo_stop (Nat.le_refl _)

/-- Well-formedness of a state: an account without a state object reads as the absent account
(what `getStateObject` returns for an address that is neither loaded nor in the trie). -/
def WF (s : St) : Prop := ∀ a, (s.acct a).present = false → s.acct a = Acct.absent

theorem wf_setAcct {s : St} {a : Nat} {v : Acct} (h : WF s) (hv : v.present = true) : WF (s.setAcct a v) := by
  intro x
  show (if x = a then v else s.acct x).present = false → (if x = a then v else s.acct x) = Acct.absent
  split
  · intro hx; rw [hv] at hx; cases hx
  · exact h x

/-- A journalled step between well-formed states: what every mutator, and then every program, is shown to be. -/
def Step (s t : St) : Prop := Good s t ∧ WF t

theorem Step.refl {s : St} (h : WF s) : Step s s := ⟨good_refl s, h⟩

theorem Step.trans {s t u : St} (h1 : Step s t) (h2 : Step t u) : Step s u := ⟨good_trans h1.1 h2.1, h2.2⟩

theorem Step.revert {s t : St} (h : Step s t) : revertTo s.journal.length t = s := h.1.2

/-- the mutators branch on the state (`if` the value is unchanged, the account is live, ...): a branch at a time -/
theorem Step.ite {s a b : St} {c : Prop} [Decidable c] (ha : c → Step s a) (hb : ¬ c → Step s b) :
    Step s (if c then a else b) := by
  split
  · exact ha ‹_›
  · exact hb ‹_›

/-! ### What undoing an account entry does

`p` is the account before the mutator; `t` any state in which the mutator's write to `a` is still in place. -/

theorem undo_balance (a : Nat) {p : Acct} (v : Nat) (t : St) (h : t.acct a = { p with bal := v }) :
    undo t (.balance a p.bal) = t.setAcct a p := by
  show t.setAcct a { t.acct a with bal := p.bal } = _; rw [h]
theorem undo_nonce (a : Nat) {p : Acct} (v : Nat) (t : St) (h : t.acct a = { p with nonce := v }) :
    undo t (.nonce a p.nonce) = t.setAcct a p := by
  show t.setAcct a { t.acct a with nonce := p.nonce } = _; rw [h]
theorem undo_code (a : Nat) {p : Acct} (v : Nat) (t : St) (h : t.acct a = { p with code := v }) :
    undo t (.code a p.code) = t.setAcct a p := by
  show t.setAcct a { t.acct a with code := p.code } = _; rw [h]
theorem undo_storage (a : Nat) {p : Acct} (k v : Nat) (t : St) (h : t.acct a = { p with stor := upd p.stor k v }) :
    undo t (.storage a k (p.stor k)) = t.setAcct a p := by
  show t.setAcct a { t.acct a with stor := upd (t.acct a).stor k (p.stor k) } = _
  rw [h, upd_upd_self]
theorem undo_suicide (a : Nat) {p : Acct} (hp : p.present = true) (t : St)
    (h : t.acct a = { p with suicided := true, bal := 0, size := 0 }) :
    undo t (.suicide a p.suicided p.bal (some p.size)) = t.setAcct a p := by
  show (if (t.acct a).present then _ else t) = _; rw [h]; exact if_pos hp

theorem ensure_present (s : St) (a : Nat) : ((ensure s a).acct a).present = true := by
  unfold ensure
  split
  · next hl => exact (Bool.and_eq_true_iff.mp hl).1
  · split <;> exact congrArg Acct.present (upd_same ..)

/-! ### One lemma per kind of journal entry: the write it records, undone, is a `Step`

All are about a variable state, so that `rfl` sees the record and not the mutator that produced it: `St` has eta, and
undoing the write of one field leaves a record whose every field is the old one. -/

section
variable {s : St} (h : WF s)
include h

/-- `createObject`, `resetObject`, `suicide`, `balance`, `nonce`, `code`, `storage`: push the entry, overwrite account
`a`.  It suffices that undoing the entry, with the write still in place, puts the old account back. -/
theorem Step.write (a : Nat) (e : Entry) (v : Acct) (hv : v.present = true)
    (hu : ∀ t : St, t.acct a = v → undo t e = t.setAcct a (s.acct a)) : Step s ((s.push e).setAcct a v) := by
  refine ⟨good_push1 rfl ?_, wf_setAcct h hv⟩
  rw [hu _ (upd_same ..)]
  show { s with acct := upd (upd s.acct a v) a (s.acct a) } = s
  rw [upd_upd_self]

theorem Step.reset (a : Nat) (v : Acct) (hv : v.present = true) :
    Step s ((s.push (.resetObject a (s.acct a))).setAcct a v) :=
  Step.write h a _ v hv fun _ _ => rfl

/-- `createObjectChange.revert` deletes the object; a well-formed state reads the absent account where there is none -/
theorem Step.create (a : Nat) (v : Acct) (hv : v.present = true) (hp : ¬ (s.acct a).present = true) :
    Step s ((s.push (.createObject a)).setAcct a v) :=
  Step.write h a _ v hv fun _ _ => by rw [h a (Bool.eq_false_iff.mpr hp)]; rfl

theorem Step.touch (a : Nat) : Step s (s.push (.touch a)) := ⟨good_push1 rfl rfl, h⟩

theorem Step.refund (r : Nat) : Step s { s.push (.refund s.refund) with refund := r } :=
  ⟨good_push1 rfl rfl, h⟩

theorem Step.addLog (id : Nat) : Step s { s.push .addLog with logs := id :: s.logs } :=
  ⟨good_push1 rfl rfl, h⟩

theorem Step.accessAddr (a : Nat) (hn : ¬ s.accA a = true) :
    Step s { s.push (.accessAddr a) with accA := upd s.accA a true } := by
  refine ⟨good_push1 rfl ?_, h⟩
  show { s with accA := upd (upd s.accA a true) a false } = s
  rw [← Bool.eq_false_iff.mpr hn, upd_upd_self]

theorem Step.accessSlot (a k : Nat) (hn : ¬ s.accS a k = true) :
    Step s { s.push (.accessSlot a k) with accS := upd2 s.accS a k true } := by
  refine ⟨good_push1 rfl ?_, h⟩
  show { s with accS := upd2 (upd2 s.accS a k true) a k false } = s
  rw [← Bool.eq_false_iff.mpr hn, upd2_upd2_self]

theorem Step.transient (a k v : Nat) :
    Step s { s.push (.transient a k (s.trans a k)) with trans := upd2 s.trans a k v } := by
  refine ⟨good_push1 rfl ?_, h⟩
  show { s with trans := upd2 (upd2 s.trans a k v) a k (s.trans a k) } = s
  rw [upd2_upd2_self]

theorem ensure_step (a : Nat) : Step s (ensure s a) :=
  Step.ite (fun _ => Step.refl h) fun _ => Step.ite (fun _ => Step.reset h a _ rfl) (Step.create h a _ rfl)

/-- a field writer: after `ensure`, push the entry that records the old field, write the new account -/
theorem Step.field (a : Nat) (e : Entry) (v : Acct)
    (hv : v.present = ((ensure s a).acct a).present)
    (hu : ∀ t : St, t.acct a = v → undo t e = t.setAcct a ((ensure s a).acct a)) :
    Step s (((ensure s a).push e).setAcct a v) :=
  (ensure_step h a).trans (Step.write (ensure_step h a).2 a e v (hv.trans (ensure_present s a)) hu)

theorem addAccessAddr_step (a : Nat) : Step s (addAccessAddr s a) :=
  Step.ite (fun _ => Step.refl h) (Step.accessAddr h a)

end

def Mut.isSuicide : Mut → Bool
  | .suicide _ => true
  | _ => false

theorem applyMut_step (vr : Variant) (s : St) (h : WF s) (m : Mut)
    (hv : vr.suicideRestoresSize = true ∨ (!m.isSuicide) = true) : Step s (applyMut vr s m) := by
  have he := ensure_step h
  cases m with
  | createAccount a =>
    exact Step.ite (fun _ => Step.reset h a _ (by split <;> rfl)) (Step.create h a _ rfl)
  | setBalance a v => exact Step.field h a _ _ rfl (undo_balance a v)
  | addBalance a v =>
    exact Step.ite (fun _ => Step.ite (fun _ => (he a).trans (Step.touch (he a).2 a)) fun _ => he a)
      fun _ => Step.field h a _ _ rfl (undo_balance a _)
  | subBalance a v => exact Step.ite (fun _ => he a) fun _ => Step.field h a _ _ rfl (undo_balance a _)
  | setNonce a n => exact Step.field h a _ _ rfl (undo_nonce a n)
  | setCode a c => exact Step.field h a _ _ rfl (undo_code a c)
  | setState a k v => exact Step.ite (fun _ => he a) fun _ => Step.field h a _ _ rfl (undo_storage a k v)
  | suicide a =>
    refine Step.ite (fun _ => Step.refl h) fun hl => ?_
    have hp : (s.acct a).present = true := by simp [Acct.live] at hl; exact hl.1
    -- the entry records the size iff the variant says so; `hv`'s other case is `!isSuicide (.suicide a)`, which is `false`
    rw [if_pos (hv.resolve_right Bool.false_ne_true)]
    exact Step.write h a _ _ hp (undo_suicide a hp)
  | addRefund g => exact Step.refund h _
  | subRefund g => exact Step.refund h _
  | addLog id => exact Step.addLog h id
  | accessAddr a => exact addAccessAddr_step h a
  | accessSlot a k =>
    have ha := addAccessAddr_step h a
    exact Step.ite (fun _ => ha) fun hn => ha.trans (Step.accessSlot ha.2 a k hn)
  | setTransient a k v => exact Step.ite (fun _ => Step.refl h) fun _ => Step.transient h a k v

mutual
def noSuicide : Prog → Bool
  | .mut m => !m.isSuicide
  | .frame body _ => noSuicideList body
def noSuicideList : List Prog → Bool
  | [] => true
  | p :: ps => noSuicide p && noSuicideList ps
end

mutual
theorem run_good (vr : Variant) :
    ∀ (p : Prog) (s : St), WF s → (vr.suicideRestoresSize = true ∨ noSuicide p = true) →
      Good s (run vr s p) ∧ WF (run vr s p)
  | .mut m, s, h, hv => applyMut_step vr s h m hv
  | .frame body _, s, h, hv =>
    have hb := runList_good vr body s h hv
    Step.ite (fun _ => hb.revert.symm ▸ Step.refl h) fun _ => hb
theorem runList_good (vr : Variant) :
    ∀ (ps : List Prog) (s : St), WF s → (vr.suicideRestoresSize = true ∨ noSuicideList ps = true) → Step s (runList vr s ps)
  | [], _, h, _ => Step.refl h
  | p :: ps, s, h, hv =>
    have h1 := run_good vr p s h (hv.imp_right fun hn => (Bool.and_eq_true_iff.mp hn).1)
    Step.trans h1 (runList_good vr ps (run vr s p) h1.2 (hv.imp_right fun hn => (Bool.and_eq_true_iff.mp hn).2))
end

/-- **C12 (full strength, repaired variant).** For every well-formed state and every frame body —
any sequence of state mutations with nested frames that themselves commit or revert at arbitrary
depth — a frame that reverts leaves the state *equal* to the state at entry: balances, nonces, code,
storage, per-contract size counters, self-destruct marks, logs, refund counter, access list,
transient storage (and the journal). -/
theorem C12_reverted_frame_leaves_no_trace (vr : Variant) (hv : vr.suicideRestoresSize = true)
    (s : St) (h : WF s) (body : List Prog) : run vr s (.frame body true) = s :=
  (runList_good vr body s h (Or.inl hv)).revert

/-- **C12 (sibling frames).** Effects of a sibling frame that completed successfully earlier are
untouched: running `first`, then a reverting frame, equals running `first` alone. -/
theorem C12_sibling_frames_untouched (vr : Variant) (hv : vr.suicideRestoresSize = true)
    (s : St) (h : WF s) (first body : List Prog) :
    runList vr s (first ++ [.frame body true]) = runList vr s first := by
  rw [runList_append]
  exact C12_reverted_frame_leaves_no_trace vr hv _ (runList_good vr first s h (Or.inl hv)).2 body

/-- the initial state is well formed: the hypothesis `WF s` of the theorems here can be met (the `example`s start from it) -/
theorem C12_init_wf : WF {} := fun _ _ => rfl

/-- **Finding S2** (the tree before ef66c21d, `suicideRestoresSize := false`).  With `Suicide` zeroing the size counter
without journalling it, the property fails: concrete witness (contract 1 with size 2 self-destructs inside a reverted frame). -/
theorem C12_counterexample_suicide_size :
    let s0 : St := { acct := upd (fun _ => {}) 1 { present := true, bal := 5, size := 2 } }
    ((run { suicideRestoresSize := false } s0 (.frame [.mut (.suicide 1)] true)).acct 1).size = 0
    ∧ (s0.acct 1).size = 2 := by
  refine ⟨?_, rfl⟩
  show ((revertTo 0 _).acct 1).size = 0
  rw [revertTo_cons (e := .suicide 1 false 5 none) (rest := []) (by rfl) (Nat.le_refl 0),
    revertTo_stop (by rw [undo_journal]; exact Nat.le_refl _)]
  rfl

/-- **C12 (partial, holds for either variant).** For *any* variant — in particular the one in which
`Suicide` does not journal the size counter (finding S2) — a reverting frame whose body performs no
SELFDESTRUCT leaves no trace. What is missing for the full statement on that variant is exactly the
`suicide` mutator (see the counterexample above). -/
theorem C12_reverted_frame_leaves_no_trace_partial (vr : Variant) (s : St) (h : WF s) (body : List Prog)
    (hn : noSuicideList body = true) : run vr s (.frame body true) = s :=
  (runList_good vr body s h (Or.inr hn)).revert

theorem finalise_acct (s : St) (a : Nat) (h : deletedNow s a = false) : (finalise s).acct a = s.acct a := by
  unfold finalise
  split
  · rfl
  · exact if_neg (ne_true_of_eq_false h)

theorem finalise_present (s : St) (a : Nat) : ((finalise s).acct a).present = (s.acct a).present := by
  unfold finalise
  split
  · rfl
  · exact (apply_ite Acct.present ..).trans (ite_self _)

theorem finalise_wf (s : St) (h : WF s) : WF (finalise s) := fun a ha => by
  rw [finalise_present] at ha
  rw [finalise_acct s a (by rw [deletedNow, ha, Bool.and_false]; rfl)]
  exact h a ha

theorem runBlock_wf (vr : Variant) (hv : vr.suicideRestoresSize = true) :
    ∀ (txs : List (List Prog)) (s : St), WF s → WF (runBlock vr s txs)
  | [], _, h => h
  | tx :: txs, s, h => runBlock_wf vr hv txs _ (finalise_wf _ (runList_good vr tx s h (Or.inl hv)).2)

/-- **C12 (every transaction of a block).** After any number of earlier transactions of the same block - including
ones that self-destructed or emptied accounts, whose objects are then only *marked* deleted until the block is
committed - a frame that reverts leaves the state equal to the state at its entry.  In particular an account deleted by
an earlier transaction and re-created inside the reverted frame is deleted again afterwards, not resurrected with its
old balance. -/
theorem C12_reverted_frame_leaves_no_trace_in_any_transaction (vr : Variant) (hv : vr.suicideRestoresSize = true)
    (s : St) (h : WF s) (earlier : List (List Prog)) (before body : List Prog) :
    let s1 := runList vr (runBlock vr s earlier) before
    run vr s1 (.frame body true) = s1 := by
  intro s1
  have hw : WF s1 := (runList_good vr before _ (runBlock_wf vr hv earlier s h) (Or.inl hv)).2
  exact C12_reverted_frame_leaves_no_trace vr hv s1 hw body

/-- the end of a transaction changes no account the transaction left clean -/
theorem C12_finalise_keeps_clean_accounts (s : St) (a : Nat)
    (hc : dirty s a = false) : (finalise s).acct a = s.acct a :=
  finalise_acct s a (by rw [deletedNow, hc]; rfl)

/-- non-vacuity, the history behind the statement above: account 1 (balance 5) self-destructs in the first
transaction; the second re-creates it and pays it 7 inside a frame that reverts; it is still deleted afterwards. -/
example :
    let s0 : St := { acct := upd (fun _ => {}) 1 { present := true, bal := 5 } }
    let s1 := runBlock { suicideRestoresSize := true } s0 [[.mut (.suicide 1)]]
    (s1.acct 1).live = false ∧
      ((runList { suicideRestoresSize := true } s1 [.mut (.createAccount 1), .mut (.addBalance 1 7)]).acct 1).live = true := by
  decide

/-- what each journal entry kind must restore (setter / field names of journal.go) -/
def expectedRestores : List (String × List String) := [
  ("balanceChange", ["setBalance"]), ("nonceChange", ["setNonce"]), ("codeChange", ["setCode"]),
  ("storageChange", ["setState"]), ("suicideChange", ["=suicided", "setBalance", "setSize"]),
  ("refundChange", ["=refund"]), ("addLogChange", ["=logs", "=logSize"]),
  ("accessListAddAccountChange", ["DeleteAddress"]), ("accessListAddSlotChange", ["DeleteSlot"]),
  ("transientStorageChange", ["setTransientState"]), ("createObjectChange", ["delete"]),
  ("resetObjectChange", ["setStateObject"])]

/-- **C12 (T1)** every journal entry kind of the model that restores anything (all but `touch`) is a kind of the current
`journal.go`, and its `revert` there uses (at least) the setters and fields the model's `undo` restores for it —
evaluated over the regenerated table.  (Kinds that `journal.go` has and the model has not are not looked for.) -/
theorem C12_journal_kinds_restore_expected_fields :
    expectedRestores.all (fun e => Gen.journalReverts.any (fun r => r.1 == e.1 && e.2.all (fun x => r.2.contains x))) = true := by
  decide +kernel

/-- **C12 (T1)** in the current tree a reverted SELFDESTRUCT restores the size counter, so the
full-strength theorem applies to the variant the code exhibits. -/
theorem C12_current_tree_variant : Gen.suicideRestoresSize = true := by decide

theorem C12_current_tree (s : St) (h : WF s) (body : List Prog) :
    run { suicideRestoresSize := Gen.suicideRestoresSize } s (.frame body true) = s :=
  C12_reverted_frame_leaves_no_trace _ C12_current_tree_variant s h body

/-! ### Non-vacuity: the theorem applied to a concrete nested program from the initial state -/
example : let s0 : St := {}
    ((run { suicideRestoresSize := true } s0
      (.frame [.mut (.addBalance 1 7), .frame [.mut (.setState 1 2 3)] false, .mut (.addLog 4)] true)).acct 1).bal = 0 := by
  intro s0
  rw [C12_reverted_frame_leaves_no_trace _ rfl s0 C12_init_wf]

end QuaiVerif.State
