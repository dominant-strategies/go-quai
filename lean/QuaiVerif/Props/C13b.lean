import QuaiVerif.Model.Payout
import QuaiVerif.Lemmas.List
/- C13 (payout schedule part): every reward is credited exactly once, at its unlock height, never earlier, never more. -/
namespace QuaiVerif.Payout

theorem matured_zero (depths : List Nat) (rs : List Reward) (a : String) : matured depths rs a 0 = 0 :=
  sum_filter_none _ fun r _ => by rw [decide_eq_false (by omega), Bool.and_false]

theorem matured_succ (depths : List Nat) (rs : List Reward) (a : String) (h : Nat) :
    matured depths rs a (h + 1) = matured depths rs a h + creditedAt depths rs a (h + 1) := by
  refine sum_filter_split _ rs (fun r => ?_) fun r hp hq => ?_
  -- the three tests differ in the height condition only: `… ≤ h + 1` is `… ≤ h` or `… = h + 1`
  · show ((r.addr == a && depths.contains r.depth) && decide (1 ≤ r.block ∧ r.block + r.depth ≤ h + 1)) = _
    rw [← Bool.and_or_distrib_left, ← Bool.decide_or]
    exact congrArg _ (decide_eq_decide.2 (by rw [← and_or_left, Nat.le_add_one_iff]))
  · simp only [Bool.and_eq_true, decide_eq_true_eq] at hp hq
    omega

/-- After processing blocks 1..h a reward-only account holds exactly the rewards whose unlock height has been reached:
each one once, none before `block + depth`. -/
theorem C13_rewards_credited_exactly_when_matured (depths : List Nat) (rs : List Reward) (a : String) (h : Nat) :
    creditedUpTo depths rs a h = matured depths rs a h := by
  induction h with
  | zero => exact (matured_zero depths rs a).symm
  | succ h ih => rw [creditedUpTo, ih, matured_succ]

/-- A reward is not credited at any height other than `block + depth`. -/
theorem C13_reward_only_at_unlock_height (depths : List Nat) (r : Reward) (a : String) (h : Nat) (hne : r.block + r.depth ≠ h) :
    creditedAt depths [r] a h = 0 :=
  sum_filter_none _ fun r' hr' => by
    rw [List.mem_singleton.1 hr', decide_eq_false fun h' => hne h'.2, Bool.and_false]

example : creditedUpTo [3, 5] [⟨"m", 10, 2, 3⟩, ⟨"m", 7, 2, 5⟩, ⟨"x", 1, 1, 3⟩] "m" 4 = 0 ∧
          creditedUpTo [3, 5] [⟨"m", 10, 2, 3⟩, ⟨"m", 7, 2, 5⟩, ⟨"x", 1, 1, 3⟩] "m" 5 = 10 ∧
          creditedUpTo [3, 5] [⟨"m", 10, 2, 3⟩, ⟨"m", 7, 2, 5⟩, ⟨"x", 1, 1, 3⟩] "m" 9 = 17 := by decide

end QuaiVerif.Payout
