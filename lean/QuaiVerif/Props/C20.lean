import QuaiVerif.Model.Convert
import QuaiVerif.Gen.Params
import QuaiVerif.Lemmas.Arith
/-
C20 — Quai<->Qi conversions never credit more than the rate allows; refusals refund.
Model: Model/Convert.lean.  Tie: T1 Gen/Params.lean (denomination table; fingerprint of the prime
repricing block that Model/Convert.repriced transcribes) and T2 area `conv` (real misc.QiToQuai /
QuaiToQi / FindMinDenominations / ApplyCubicDiscount on generated amounts and rates).
-/
namespace QuaiVerif.Convert

/-- **C20 (round trip at a fixed rate)** converting back and forth never yields more than was started with. -/
theorem C20_roundtrip_qi (r : Rate) (hq : 0 < r.quaiR) (x : Nat) :
    quaiToQi r (qiToQuai r x) ≤ x :=
  Nat.div_le_of_le_mul (Nat.mul_div_le ..)

theorem C20_roundtrip_quai (r : Rate) (hq : 0 < r.qiR) (y : Nat) :
    qiToQuai r (quaiToQi r y) ≤ y :=
  Nat.div_le_of_le_mul (Nat.mul_div_le ..)

/-- unit conversion is monotone: a smaller repriced amount never converts to more -/
theorem C20_conversion_monotone (r : Rate) (a b : Nat) (h : a ≤ b) :
    quaiToQi r a ≤ quaiToQi r b ∧ qiToQuai r a ≤ qiToQuai r b := by
  unfold quaiToQi qiToQuai
  exact ⟨Nat.div_le_div_right (Nat.mul_le_mul_left _ h), Nat.div_le_div_right (Nat.mul_le_mul_left _ h)⟩

theorem floor_bounds {fl v x : Nat} (hfl : fl ≤ x) (hv : v ≤ x) :
    fl ≤ (if v < fl then fl else v) ∧ (if v < fl then fl else v) ≤ x := by
  split
  · exact ⟨Nat.le_refl _, hfl⟩
  · next h => exact ⟨Nat.not_lt.mp h, hv⟩

/-- **C20 (discounts only reduce, never below the floor)** provided the cubic discount returns at most
its argument (`D ≤ A`, the property of `ApplyCubicDiscount` checked on the real function) and the
k-quai discount only reduces (`K ≤ D`), the repriced amount lies between 10 % of the original and the
original. -/
theorem C20_repriced_bounds (p : Reprice) (hDA : p.discounted ≤ p.actual) (hKD : p.afterKQuai ≤ p.discounted) :
    p.original * 10 / 100 ≤ repriced p ∧ repriced p ≤ p.original := by
  have hv1 : p.original * p.discounted / p.actual ≤ p.original := mul_div_le_of_le _ hDA
  have hfl : p.original * 10 / 100 ≤ p.original := mul_div_le_of_le _ (by decide)
  unfold repriced
  dsimp only
  split
  · exact floor_bounds hfl (Nat.le_trans (mul_div_le_of_le _ hKD) hv1)
  · exact floor_bounds hfl hv1

/-- **C20 (exactly one outcome)** every conversion ETX leaves prime either as a conversion whose credit
is at most the rate value of the original amount, or as a revert carrying exactly the original; never both. -/
theorem C20_one_outcome (p : Reprice) (rev : Bool) (r : Rate) (toQi : Bool)
    (hDA : p.discounted ≤ p.actual) (hKD : p.afterKQuai ≤ p.discounted) :
    (rev = true ∧ finalize p rev r toQi = .revert p.original) ∨
    (rev = false ∧ ∃ c, finalize p rev r toQi = .conversion c ∧
        c ≤ (if toQi then quaiToQi r p.original else qiToQuai r p.original) ∧
        (if toQi then quaiToQi r (p.original * 10 / 100) else qiToQuai r (p.original * 10 / 100)) ≤ c) := by
  obtain ⟨hlo, hhi⟩ := C20_repriced_bounds p hDA hKD
  cases rev with
  | true => exact .inl ⟨rfl, rfl⟩
  | false =>
    cases toQi with
    | true => exact .inr ⟨rfl, _, rfl, (C20_conversion_monotone r _ _ hhi).1, (C20_conversion_monotone r _ _ hlo).1⟩
    | false => exact .inr ⟨rfl, _, rfl, (C20_conversion_monotone r _ _ hhi).2, (C20_conversion_monotone r _ _ hlo).2⟩

/-- The hypothesis `D ≤ A` of `C20_repriced_bounds` is what the current protocol (after the ConversionSlipChangeBlock
fork) provides: there D is the cubic discount *of* the block's conversion amount A.  Before that fork the discount was
taken of the running flow amount, so D could exceed A - and then a conversion is repriced above its original amount.
The real prime chain does this in that regime (known finding, area c04h). -/
theorem C20_counterexample_legacy_discount :
    ∃ p : Reprice, p.actual < p.discounted ∧ p.afterKQuai ≤ p.discounted ∧ p.original < repriced p :=
  ⟨{ original := 1000, discounted := 10000, actual := 2000, afterKQuai := 10000, kQuaiApplies := false }, by decide⟩

/-- a slippage revert happens exactly when the repriced value is below the sender's bound -/
theorem C20_slip_revert_iff (p : Reprice) (slip range : Nat) :
    slipReverts p slip range = true ↔ repriced p < p.original * (range - slip) / range :=
  decide_eq_true_iff

/-- If the unit denomination is still ahead of `v`, it is ahead of what `d` leaves of `v`, or `d` leaves nothing. -/
theorem unit_ahead {i d v : Nat} {rest : List (Nat × Nat)} (h : v = 0 ∨ ∃ p ∈ (i, d) :: rest, p.2 = 1) :
    v % d = 0 ∨ ∃ p ∈ rest, p.2 = 1 := by
  rcases h with rfl | ⟨p, hp, hp1⟩
  · exact .inl (Nat.zero_mod d)
  · rcases List.mem_cons.mp hp with rfl | hp
    · exact .inl (by rw [show d = 1 from hp1, Nat.mod_one])
    · exact .inr ⟨p, hp, hp1⟩

/-- The greedy split loses nothing as long as the unit denomination is still ahead (or nothing is left to split):
each denomination `d` passes on `v % d`. -/
theorem findMinDenomsAux_sum (f : Nat → Nat) (l : List (Nat × Nat)) (v : Nat) (hf : ∀ p ∈ l, f p.1 = p.2)
    (h1 : v = 0 ∨ ∃ p ∈ l, p.2 = 1) : ((findMinDenomsAux l v).map fun (i, c) => c * f i).sum = v := by
  fun_induction findMinDenomsAux l v with
  | case1 => rcases h1 with rfl | ⟨_, hp, _⟩; rfl; cases hp
  | case2 i d rest v count hc ih =>
    have hv : v % d = v := by rw [Nat.mod_def, show v / d = 0 from hc, Nat.mul_zero, Nat.sub_zero]
    exact ih (fun p hp => hf p (List.mem_cons_of_mem _ hp)) (hv ▸ unit_ahead h1)
  | case3 i d rest v count hc new hn ih =>
    have hv : v % d = new := by rw [Nat.mod_def, Nat.mul_comm]
    rw [List.map_cons, List.sum_cons, ih (fun p hp => hf p (List.mem_cons_of_mem _ hp)) (hv ▸ unit_ahead h1)]
    show count * f i + (v - count * d) = v
    rw [hf (i, d) List.mem_cons_self]
    exact Nat.add_sub_cancel' (Nat.div_mul_le_self v d)
  | case4 i d rest v count hc new hn =>
    show count * f i + 0 = v
    rw [hf (i, d) List.mem_cons_self]
    exact Nat.le_antisymm (Nat.div_mul_le_self v d) (Nat.le_of_sub_eq_zero (Nat.eq_zero_of_not_pos hn))

/-- the denomination table of the current source tree contains the unit and only positive values -/
theorem C20_denominations_table_ok :
    Gen.denominations.head? = some 1 ∧ Gen.denominations.all (fun d => decide (0 < d)) = true := by decide

/-- The table `findMinDenoms` walks lists each denomination with its index. -/
theorem mem_indexed {denoms : List Nat} {i d : Nat} :
    (i, d) ∈ (denoms.zipIdx.map fun (d, i) => (i, d)).reverse ↔ denoms[i]? = some d := by
  rw [List.mem_reverse, List.mem_map]
  constructor
  · rintro ⟨⟨d', i'⟩, h, e⟩
    cases e
    exact List.mem_zipIdx_iff_getElem?.mp h
  · intro h
    exact ⟨(d, i), List.mem_zipIdx_iff_getElem?.mpr h, rfl⟩

theorem findMinDenoms_exact (denoms : List Nat) (h1 : 1 ∈ denoms) (v : Nat) :
    denomTotal denoms (findMinDenoms denoms v) = v := by
  refine findMinDenomsAux_sum (fun i => denoms.getD i 0) _ v (fun p hp => ?_) (.inr ?_)
  · show denoms.getD p.1 0 = p.2
    rw [List.getD_eq_getElem?_getD, mem_indexed.mp hp]; rfl
  · obtain ⟨i, hi⟩ := List.mem_iff_getElem?.mp h1
    exact ⟨(i, 1), mem_indexed.mpr hi, rfl⟩

/-- **C20 (denominations exact)** for the denomination table of the current source, splitting any
positive amount into Qi denominations loses nothing: Σ countᵢ·denomᵢ = v. (What a destination actually
mints can be less only through the gas / output-index / trim rules, which are C13 / C01 territory.) -/
theorem C20_denominations_exact (v : Nat) (hv : 0 < v) :
    denomTotal Gen.denominations (findMinDenoms Gen.denominations v) = v :=
  findMinDenoms_exact _ (by decide) v

/-! ### T1: the hand-modelled prime repricing block is the code it was transcribed from -/
theorem C20_conv_pipeline_unchanged :
    Gen.convPipelineFingerprint = "a6c2cf54fadb41919fec079755f44cc72cbb77a136a727ec580cd4e4ad0b7240" := by rfl

/-! ### The conversion volume of a prime block (the quantity its cubic discount is read from) -/

/-- **C20 (volume additive)** the volume of a block is the sum over its inbound ETXs: no ETX changes what another
contributes. -/
theorem C20_volume_append (r : Rate) (a b : List VolItem) : volume r (a ++ b) = volume r a + volume r b := by
  simp [volume]

/-- **C20 (volume order independent)** it does not depend on the order in which the ETXs are listed. -/
theorem C20_volume_perm (r : Rate) (a b : List VolItem) (h : a.Perm b) : volume r a = volume r b := by
  unfold volume
  exact (h.map (volumeOf r)).sum_nat

/-- **C20 (volume counts conversions only, each at the one rate)** every Quai->Qi conversion counts with the Quai it
carries, every Qi->Quai conversion with its Qi valued at the block's rate, everything else with nothing. -/
theorem C20_volume_cons (r : Rate) (x : VolItem) (l : List VolItem) :
    volume r (x :: l) = (match x with | .toQi q => q | .toQuai u => r.quaiR * u / r.qiR | .other => 0) + volume r l := by
  cases x <;> rfl

/-! ### Non-vacuity -/
example : volume { quaiR := 7, qiR := 2 } [.toQi 100, .other, .toQuai 9, .toQi 5] = 136 := by decide

example : repriced { original := 1000, discounted := 900, actual := 1000, afterKQuai := 810, kQuaiApplies := true } = 810 := by decide
example : findMinDenoms Gen.denominations 1234567 = [(11, 1), (10, 2), (9, 1), (8, 1), (6, 4), (5, 1), (3, 1), (2, 1), (1, 1), (0, 2)] := by decide
example : denomTotal Gen.denominations (findMinDenoms Gen.denominations 1234567) = 1234567 := by decide

end QuaiVerif.Convert
