import QuaiVerif.Lemmas.Pool
/-
C19 (sequential core): after every submission and every head change the pool's per-account lists satisfy the
property's invariants.  Proved on the model for all histories: the pending list is nonce-contiguous from the state
nonce, no nonce is held twice; after a head change every pending transaction is affordable and not stale; the
replacement rule.  Area c19 runs the model in lock-step with the real core.TxPool at quiescent points and checks the
invariants (plus hash index, stats, limits) on the real pool's own snapshot, including under concurrent submissions
and head changes.
-/
namespace QuaiVerif.Pool

/-- A submission (with the promotion it triggers) keeps the pending list nonce-contiguous from the state nonce. -/
theorem C19_add_keeps_pending_contiguous (bump : Nat) (a : Acct) (t : Tx) (h : Contig a.stateNonce a.pending) :
    Contig (add bump a t).1.stateNonce (add bump a t).1.pending :=
  add_induction (P := fun a => Contig a.stateNonce a.pending) (contig_addNoPromote bump t h) contig_promote

/-- A submission keeps every nonce held at most once across pending and queue. -/
theorem C19_add_keeps_nonces_unique (bump : Nat) (a : Acct) (t : Tx) (h : Uniq a) : Uniq (add bump a t).1 :=
  add_induction (uniq_addNoPromote bump t h) uniq_promote

/-- The replacement rule: a same-nonce transaction displaces the one the pool holds only with a strictly higher
price that also meets the configured percentage bump; a result of `ok` means the nonce was free. -/
theorem C19_replacement_rule (bump : Nat) (a : Acct) (t : Tx) :
    ((add bump a t).2 = .replaced → ∃ old ∈ a.pending ++ a.queue, old.nonce = t.nonce ∧ old.price < t.price ∧
        old.price * (100 + bump) / 100 ≤ t.price) ∧
    ((add bump a t).2 = .ok → getNonce a.pending t.nonce = none ∧ getNonce a.queue t.nonce = none) := by
  rw [add_snd]
  have o := addNoPromote_outcome bump a t
  generalize addNoPromote bump a t = r at o ⊢
  cases o with
  | rejected r h1 h2 => exact ⟨fun h => absurd h h2, fun h => absurd h h1⟩
  | replacedPending old hp hr =>
    exact ⟨fun _ => ⟨old, List.mem_append_left _ (getNonce_some hp).2, (getNonce_some hp).1, replaceOK_iff.mp hr⟩, nofun⟩
  | replacedQueue old _ hq hr =>
    exact ⟨fun _ => ⟨old, List.mem_append_right _ (getNonce_some hq).2, (getNonce_some hq).1, replaceOK_iff.mp hr⟩, nofun⟩
  | fresh hp hq => exact ⟨nofun, fun _ => ⟨hp, hq⟩⟩

/-- A rejected submission changes nothing. -/
theorem C19_rejected_add_is_noop (bump : Nat) (a : Acct) (t : Tx)
    (h : (add bump a t).2 ≠ .ok ∧ (add bump a t).2 ≠ .replaced) : (add bump a t).1 = a := by
  rw [add_snd] at h
  rw [add_fst, if_neg (not_or.mpr h)]
  have o := addNoPromote_outcome bump a t
  generalize addNoPromote bump a t = r at o h ⊢
  cases o with
  | rejected => rfl
  | replacedPending | replacedQueue => exact absurd rfl h.2
  | fresh => exact absurd rfl h.1

/-- After any head change - whatever the pool held, whatever was re-injected - the pending list is nonce-contiguous
from the new state nonce. -/
theorem C19_reset_pending_contiguous (bump : Nat) (a : Acct) (n b : Nat) (re : List Tx) :
    Contig (reset bump a n b re).stateNonce (reset bump a n b re).pending := by
  have hs : (re.foldl (fun acc t => (addNoPromote bump acc t).1) { a with stateNonce := n, balance := b }).stateNonce = n :=
    List.foldlRecOn (motive := fun acc : Acct => acc.stateNonce = n) re _ rfl fun a h t _ =>
      (addNoPromote_stateNonce bump a t).trans h
  simp only [reset]
  rw [hs]
  exact contig_takeContig _ _

/-- ... and every pending transaction is affordable from the new balance and not stale. -/
theorem C19_reset_pending_affordable (bump : Nat) (a : Acct) (n b : Nat) (re : List Tx) :
    ∀ t ∈ (reset bump a n b re).pending, t.cost ≤ b ∧ n ≤ t.nonce := by
  intro t ht
  obtain ⟨l, hl⟩ := reset_pending bump a n b re
  rw [hl] at ht
  have h := mem_takeContig ht
  have hs : t ∈ l.filter fun t => n ≤ t.nonce := (filterStrict_sublist b _).subset (List.mem_append_left _ h)
  exact ⟨filterStrict_affordable b _ t h, of_decide_eq_true (List.mem_filter.mp hs).2⟩

/-- A head change (with re-injection, promotion from the new state nonce and demotion) keeps every nonce held at most
once: nothing is both pending and queued afterwards.  After re-injection it only moves and drops. -/
theorem C19_reset_keeps_nonces_unique (bump : Nat) (a : Acct) (n b : Nat) (re : List Tx) (h : Uniq a) :
    Uniq (reset bump a n b re) := fun m =>
  have h0 : Uniq { a with stateNonce := n, balance := b } := h
  Nat.le_trans (cnt_reset_le bump a n b re m) (List.foldlRecOn re _ h0 (fun _ h t _ => uniq_addNoPromote bump t h) m)

inductive Ev where
  | submit (t : Tx)
  | head (n b : Nat) (re : List Tx)

def apply (bump : Nat) (a : Acct) : Ev → Acct
  | .submit t => (add bump a t).1
  | .head n b re => reset bump a n b re

/-- Whole histories: every reachable pool state has a contiguous pending list. -/
theorem C19_every_reachable_state_contiguous (bump : Nat) (a : Acct) (evs : List Ev) (h : Contig a.stateNonce a.pending) :
    Contig (evs.foldl (apply bump) a).stateNonce (evs.foldl (apply bump) a).pending := by
  refine List.foldlRecOn (motive := fun a : Acct => Contig a.stateNonce a.pending) evs _ h fun a h e _ => ?_
  cases e with
  | submit t => exact C19_add_keeps_pending_contiguous bump a t h
  | head n b re => exact C19_reset_pending_contiguous bump a n b re

/-- Whole histories: in every reachable state no nonce is held twice (hence no transaction is both pending and
queued) and the pending list is contiguous from the state nonce. -/
theorem C19_every_reachable_state_consistent (bump : Nat) (a : Acct) (evs : List Ev)
    (h : Contig a.stateNonce a.pending) (hu : Uniq a) :
    Contig (evs.foldl (apply bump) a).stateNonce (evs.foldl (apply bump) a).pending ∧ Uniq (evs.foldl (apply bump) a) := by
  refine ⟨C19_every_reachable_state_contiguous bump a evs h, List.foldlRecOn evs _ hu fun a hu e _ => ?_⟩
  cases e with
  | submit t => exact C19_add_keeps_nonces_unique bump a t hu
  | head n b re => exact C19_reset_keeps_nonces_unique bump a n b re hu

/-- The empty pool satisfies both. -/
example : Contig ({} : Acct).stateNonce ({} : Acct).pending ∧ Uniq ({} : Acct) := ⟨trivial, fun _ => by simp [cnt]⟩

/-- Non-vacuity and the shape of the defect fixed in demoteUnexecutables: state nonce 5, pending 7, 8; a reorg
re-injects 5 (6 is no longer affordable): only 5 stays pending, 7 and 8 wait in the queue. -/
example :
    let a : Acct := { stateNonce := 7, balance := 9, pending := [⟨"t7", 7, 1, 2⟩, ⟨"t8", 8, 1, 2⟩], queue := [] }
    let r := reset 5 a 5 3 [⟨"t5", 5, 1, 2⟩, ⟨"t6", 6, 1, 4⟩]
    r.pending.map (·.id) = ["t5"] ∧ (sortByNonce r.queue).map (·.id) = ["t7", "t8"] := by decide

end QuaiVerif.Pool
