import QuaiVerif.Lemmas.TrieCanon
import QuaiVerif.Lemmas.TrieOps
/- insert and delete keep the trie model canonical (C18): `Canon` is `WF` and `Tight`, and on a well-formed trie they
keep it `Tight`. -/
namespace QuaiVerif.Trie

/-- a branch that is needed: at least two children, none beyond the terminator's slot -/
def Branching (cs : Nat → Node) : Prop :=
  (∀ i, 16 < i → cs i = .nil) ∧ ∃ i j, i < 17 ∧ j < 17 ∧ i ≠ j ∧ cs i ≠ .nil ∧ cs j ≠ .nil

/-- no slack: what `Canon` asks beyond `WF`.  `insert` and `delete` keep it on well-formed tries, so the theorems
about canonical tries need not go through well-formedness again. -/
def Tight : Node → Prop
  | .short _ c => (NotValue c → IsFull c) ∧ Tight c
  | .full cs => (∀ i, Tight (cs i)) ∧ Branching cs
  | _ => True

theorem canon_iff {t : Node} : Canon t ↔ WF t ∧ Tight t := by
  constructor
  · intro h
    induction h with
    | nil => exact ⟨WF.nil, trivial⟩
    | leaf b v hb => exact ⟨WF.leaf b v hb, False.elim, trivial⟩
    | ext k c hk hne hf _ ih => exact ⟨WF.ext k c hk hne ih.1 ih.1.notValue, fun _ => hf, ih.2⟩
    | full cs _ hnv h16 hbig h2 ih =>
      refine ⟨WF.full cs (fun i hi => (ih i hi).1) hnv h16, fun i => ?_, hbig, h2⟩
      rcases Nat.lt_trichotomy i 16 with hi | rfl | hi
      · exact (ih i hi).2
      · rcases h16 with h | ⟨v, h⟩ <;> rw [h] <;> trivial
      · rw [hbig i hi]; trivial
  · rintro ⟨hwf, ht⟩
    induction hwf with
    | nil => exact Canon.nil
    | leaf b v hb => exact Canon.leaf b v hb
    | ext k c hk hne _ hnv ih => exact Canon.ext k c hk hne (ht.1 hnv) (ih ht.2)
    | full cs _ hnv h16 ih => exact Canon.full cs (fun i hi => ih i hi (ht.1 i)) hnv h16 ht.2.1 ht.2.2

theorem canon_wf {t : Node} (h : Canon t) : WF t := (canon_iff.mp h).1

theorem upd_beyond {cs : Nat → Node} {x i : Nat} {n : Node} (hx : x < 17) (hi : 16 < i) : upd cs x n i = cs i :=
  upd_other (Nat.ne_of_gt (Nat.lt_of_lt_of_le hx hi))

theorem upd_ne_nil {cs : Nat → Node} {x i : Nat} {n : Node} (hi : cs i ≠ .nil) (hn : n ≠ .nil) : upd cs x n i ≠ .nil := by
  unfold upd; split <;> assumption

theorem branching_upd {cs : Nat → Node} {x : Nat} {n : Node} (h : Branching cs) (hx : x < 17) (hn : n ≠ .nil) :
    Branching (upd cs x n) :=
  let ⟨i, j, hi, hj, hij, hin, hjn⟩ := h.2
  ⟨fun i hi => (upd_beyond hx hi).trans (h.1 i hi), i, j, hi, hj, hij, upd_ne_nil hin hn, upd_ne_nil hjn hn⟩

theorem branching_split {x a : Nat} {nx na : Node} (hxa : x ≠ a) (hx : x < 17) (ha : a < 17) (hnx : nx ≠ .nil) (hna : na ≠ .nil) :
    Branching (upd (upd (fun _ => .nil) a na) x nx) :=
  ⟨fun i hi => (upd_beyond hx hi).trans (upd_beyond ha hi), x, a, hx, ha, hxa,
    by rwa [upd_same], by rwa [upd_other (Ne.symm hxa), upd_same]⟩

theorem tight_mk {k : List Nat} {c : Node} (hf : NotValue c → IsFull c) (h : Tight c) : Tight (mk k c) := by
  unfold mk; split
  · exact h
  · exact ⟨hf, h⟩

theorem mk_ne_nil {k : List Nat} {c : Node} (h : c ≠ .nil) : mk k c ≠ .nil := by
  unfold mk; split
  · exact h
  · exact Node.noConfusion

theorem behind_head_lt {a : Nat} {k : List Nat} {c : Node} (h : Behind (a :: k) c) : a < 17 := by
  rcases h with ⟨h, _⟩ | ⟨h, _⟩
  · exact hexKey_head_lt h
  · exact Nat.lt_succ_of_lt (nib_cons.mp h).1

theorem isFull_insert {c : Node} {y : Nat} {r : List Nat} {v : Node} (h : IsFull c) : IsFull (insert c (y :: r) v) := by
  cases c <;> first | exact h.elim | trivial

/-- an inserted key is found, so the result is not the empty trie -/
theorem insert_ne_nil {t : Node} (hwf : WF t) {key : List Nat} (hk : HexKey key) (v : Bytes) : insert t key (.value v) ≠ .nil := by
  intro e
  have := get_insert hwf hk v key hk
  rw [e, get_nil, if_pos rfl] at this
  cases this

theorem tight_insert {t : Node} (hwf : WF t) {key : List Nat} (hk : HexKey key) (v : Bytes) :
    Tight t → Tight (insert t key (.value v)) := by
  refine hwf.key_induction hk ?nil ?hit ?below ?fork ?full
  case nil =>
    intro key _ _
    rw [insert_nil]
    exact tight_mk False.elim trivial
  case hit =>
    intro k w hk _
    rw [insert_short_same (hexKey_ne_nil hk)]
    exact ⟨False.elim, trivial⟩
  case below =>
    intro k c r _ hne hc hr ih ht
    rw [insert_short_prefix hne]
    obtain ⟨y, s, rfl⟩ := List.exists_cons_of_ne_nil (hexKey_ne_nil hr)
    exact ⟨fun _ => isFull_insert (ht.1 hc.notValue), ih ht.2⟩
  case fork =>
    intro p x rk a ra c hxa _ ha hxk ht
    have hx : Behind (x :: rk) (.value v) := Or.inl ⟨hxk, v, rfl⟩
    have hc : c ≠ .nil := by rintro rfl; exact ht.1 trivial
    rw [insert_short_split hxa]
    refine tight_mk (fun _ => trivial) ⟨forall_upd (forall_upd (fun _ => trivial) (tight_mk ht.1 ht.2)) (tight_mk False.elim trivial), ?_⟩
    exact branching_split hxa (behind_head_lt hx) (behind_head_lt ha) (mk_ne_nil Node.noConfusion) (mk_ne_nil hc)
  case full =>
    intro cs x rest hwf h ht
    rw [insert_full_cons]
    rcases h with ⟨rfl, rfl⟩ | ⟨hx, hr, ih⟩
    · rw [insert_nil_key]
      exact ⟨forall_upd ht.1 trivial, branching_upd ht.2 (Nat.lt_succ_self 16) Node.noConfusion⟩
    · exact ⟨forall_upd ht.1 (ih (ht.1 x)), branching_upd ht.2 (Nat.lt_succ_of_lt hx) (insert_ne_nil (hwf.child hx) hr v)⟩

theorem canon_insert {t : Node} (hc : Canon t) {key : List Nat} (hk : HexKey key) (v : Bytes) :
    Canon (insert t key (.value v)) :=
  have ⟨hwf, ht⟩ := canon_iff.mp hc
  canon_iff.mpr ⟨wf_insert hwf hk v, tight_insert hwf hk v ht⟩

theorem tight_rejoin {d : Node} {k : List Nat} (h : Tight d) : Tight (rejoin k d) := by
  cases d with
  | nil => trivial
  | value v => exact ⟨False.elim, trivial⟩
  | short k2 c2 => exact h
  | full cs => exact ⟨fun _ => trivial, h⟩

theorem tight_delete {t : Node} (hwf : WF t) {key : List Nat} (hk : HexKey key) : Tight t → Tight (delete t key) := by
  refine hwf.key_induction hk ?nil ?hit ?below ?fork ?full
  case nil => intro key _ _; rw [delete_nil]; trivial
  case hit => intro k w _ _; rw [delete_short_same]; trivial
  case below =>
    intro k c r _ _ _ hr ih ht
    rw [delete_short_prefix (hexKey_ne_nil hr)]
    exact tight_rejoin (ih ht.2)
  case fork =>
    intro p x rk a ra c hxa _ _ _ ht
    rw [delete_short_fork hxa]; exact ht
  case full =>
    intro cs x rest hwf h ht
    have hx : x < 17 := h.elim (fun h => h.1 ▸ Nat.lt_succ_self 16) fun h => Nat.lt_succ_of_lt h.1
    have hch : ∀ i, Tight (upd cs x (delete (cs x) rest) i) := by
      refine forall_upd ht.1 ?_
      rcases h with ⟨rfl, rfl⟩ | ⟨_, _, ih⟩
      · rw [delete_term hwf]; trivial
      · exact ih (ht.1 x)
    rcases delete_full_cons hwf x rest with ⟨e, hnn | hs⟩ | ⟨pos, _, e⟩ <;> rw [e]
    · exact ⟨hch, branching_upd ht.2 hx hnn⟩
    · refine ⟨hch, fun i hi => (upd_beyond hx hi).trans (ht.2.1 i hi), ?_⟩
      -- no single child is left, and not none either: one of the two children the branch had is not under `x`
      refine (singleChild_none_spec hs).resolve_left fun hall => ?_
      obtain ⟨i, j, hi, hj, hij, hin, hjn⟩ := ht.2.2
      by_cases e : i = x
      · exact hjn ((upd_other fun ej => hij (e.trans ej.symm)).symm.trans (hall j hj))
      · exact hin ((upd_other e).symm.trans (hall i hi))
    · exact tight_rejoin (hch pos)

theorem canon_delete {t : Node} (hc : Canon t) {key : List Nat} (hk : HexKey key) : Canon (delete t key) :=
  have ⟨hwf, ht⟩ := canon_iff.mp hc
  canon_iff.mpr ⟨wf_delete hwf hk, tight_delete hwf hk ht⟩

end QuaiVerif.Trie
