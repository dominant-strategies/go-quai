import QuaiVerif.Model.Gas
/-
C02 (gas purchase): buying gas up front and refunding what was not used never creates value, whatever the sizes of the
gas limit, the price, the value and the balance.
-/
namespace QuaiVerif.Gas

/-- **C02 (gas purchase is exact).** An accepted transaction leaves the payer with exactly balance − used × price − value
moved; nothing is gained. -/
theorem C02_gas_purchase_exact (t : Tx) (used : Nat) (moved : Bool) (hu : used ≤ t.gasLimit) (ha : accepted t = true) :
    payerAfter t used moved + used * t.gasPrice + (if moved then t.value else 0) = t.balance := by
  have hle : t.gasLimit * t.gasPrice + t.value ≤ t.balance := of_decide_eq_true ha
  have hv : (if moved then t.value else 0) ≤ t.value := by split; exact Nat.le_refl _; exact Nat.zero_le _
  -- the value comes back; refund and used gas make up the purchase; the purchase comes back
  rw [payerAfter, if_pos ha, Nat.add_right_comm,
    Nat.sub_add_cancel (Nat.le_trans hv (Nat.le_trans (Nat.le_sub_of_add_le' hle) (Nat.le_add_right ..))),
    Nat.add_assoc, ← Nat.add_mul, Nat.sub_add_cancel hu, Nat.sub_add_cancel (Nat.le_trans (Nat.le_add_right ..) hle)]

/-- **C02 (a refused transaction moves nothing).** -/
theorem C02_refused_moves_nothing (t : Tx) (used : Nat) (moved : Bool) (h : accepted t = false) :
    payerAfter t used moved = t.balance ∧ recipientGain t moved = 0 := by
  simp [payerAfter, recipientGain, h]

/-- **C02 (gas purchase never creates value).** Payer and recipient together never hold more than before. -/
theorem C02_gas_purchase_never_creates_value (t : Tx) (used : Nat) (moved : Bool) (hu : used ≤ t.gasLimit) :
    payerAfter t used moved + recipientGain t moved ≤ t.balance := by
  cases ha : accepted t
  · obtain ⟨hp, hr⟩ := C02_refused_moves_nothing t used moved ha
    rw [hp, hr]
    exact Nat.le_refl _
  · rw [recipientGain, ha, Bool.true_and]
    exact C02_gas_purchase_exact t used moved hu ha ▸ Nat.add_le_add_right (Nat.le_add_right ..) _

/-- the witness of the wrapped product: gas limit 100000 at a price just above 2^256 / 100000 costs more than 2^256 -
a payer holding a million is refused (in a 256-bit product the cost would wrap to about 100000 and pass). -/
example : accepted { gasLimit := 100000, gasPrice := 2 ^ 256 / 100000 + 1, value := 0, balance := 1000000 } = false := by decide
example : (100000 * (2 ^ 256 / 100000 + 1)) % 2 ^ 256 < 1000000 := by decide

end QuaiVerif.Gas
