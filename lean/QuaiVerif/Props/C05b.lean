import QuaiVerif.Model.Wrapped
import QuaiVerif.Lemmas.List
/- C05 for the lockup contract's wrapped-Qi calls: an unwrap either succeeds with exactly one ETX of exactly the
   requested value and exactly that debit of the live balance, or fails with no effect; over a whole transaction the
   emitted ETXs carry exactly what left the balance. -/
namespace QuaiVerif.Wrapped

theorem C05_unwrap_all_or_nothing (s : St) (v : Nat) :
    ((unwrap s v).2 = true ∧ v ≤ s.bal ∧ (unwrap s v).1.bal = s.bal - v ∧ (unwrap s v).1.out = s.out ++ [v] ∧
        (unwrap s v).1.deps = s.deps) ∨
    ((unwrap s v).2 = false ∧ (unwrap s v).1 = s) := by
  unfold unwrap
  split
  · exact .inr ⟨rfl, rfl⟩
  · next h => exact .inl ⟨rfl, Nat.le_of_not_lt fun hlt => h (.inr hlt), rfl, rfl, rfl⟩

/-- an overdraw is refused whatever was unwrapped before it in the same transaction -/
theorem C05_overdraw_refused (s : St) (v : Nat) (h : s.bal < v) : unwrap s v = (s, false) :=
  if_pos (.inr h)

theorem unwrap_carries (s : St) (v : Nat) :
    (unwrap s v).1.out.sum + (unwrap s v).1.bal = s.out.sum + s.bal ∧ (unwrap s v).1.deps = s.deps := by
  rcases C05_unwrap_all_or_nothing s v with ⟨-, hv, hb, ho, hd⟩ | ⟨-, hs⟩
  · rw [hb, ho, hd, List.sum_append_nat, List.sum_singleton, Nat.add_assoc, Nat.add_sub_cancel' hv]
    exact ⟨rfl, rfl⟩
  · rw [hs]; exact ⟨rfl, rfl⟩

theorem unwrap_total (s : St) (v : Nat) : total (unwrap s v).1 = total s := by
  obtain ⟨hc, hd⟩ := unwrap_carries s v
  rw [total, total, hd]
  omega

theorem claim_total (s : St) (i : Nat) (hfit : total s < W) : total (claim s i).1 = total s := by
  unfold claim
  split
  · rfl
  · next d hd =>
    split
    · rfl
    · have hs := sum_set_zero s.deps i d hd
      have hlt : s.bal + d < W := by unfold total at hfit; omega
      simp only [total, Nat.mod_eq_of_lt hlt, ← hs, Nat.add_assoc, Nat.add_comm d]

theorem run_fst (s : St) (ops : List Op) : (run s ops).1 = ops.foldl (fun s op => (step s op).1) s := by
  induction ops generalizing s with
  | nil => rfl
  | cons op ops ih => exact ih (step s op).1

/-- over every transaction (any sequence of unwraps and claims by the owner contract): balance + unclaimed deposits +
    value carried by the emitted ETXs is unchanged, so the ETXs carry exactly what was debited. -/
theorem C05_wrapped_transaction_conserves (s : St) (ops : List Op) (hfit : total s < W) :
    total (run s ops).1 = total s := by
  rw [run_fst]
  refine List.foldlRecOn (motive := fun s' => total s' = total s) ops _ rfl fun s' h op _ => ?_
  cases op with
  | unwrap v => exact (unwrap_total s' v).trans h
  | claim i => exact (claim_total s' i (h ▸ hfit)).trans h

/-- unwraps alone: the emitted values sum to exactly the decrease of the balance slot -/
theorem C05_unwraps_carry_exactly_the_debit (s : St) (vs : List Nat) :
    (run s (vs.map Op.unwrap)).1.out.sum + (run s (vs.map Op.unwrap)).1.bal = s.out.sum + s.bal ∧
    (run s (vs.map Op.unwrap)).1.deps = s.deps := by
  rw [run_fst, List.foldl_map]
  exact List.foldlRecOn (motive := fun s' => s'.out.sum + s'.bal = s.out.sum + s.bal ∧ s'.deps = s.deps) vs _ ⟨rfl, rfl⟩
    fun s' h v _ => ⟨(unwrap_carries s' v).1.trans h.1, (unwrap_carries s' v).2.trans h.2⟩

-- non-vacuity: balance 100, two unwraps of 60 in one transaction: the second is refused
example : run { bal := 100, deps := [7], out := [] } [.unwrap 60, .unwrap 60, .claim 0, .unwrap 47] =
    ({ bal := 0, deps := [0], out := [60, 47] }, [true, false, true, true]) := by decide

end QuaiVerif.Wrapped
