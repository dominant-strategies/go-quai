import QuaiVerif.Model.KV
/- The store as a map: `get` turns `insert` and `erase` into updates of a function (`get_insert`,
`get_erase`), both keep the store strictly ascending, and in an ascending store membership is lookup
(`mem_iff_get`).  Core Lean only. -/
namespace QuaiVerif.KV

def Sorted (s : Store) : Prop := s.Pairwise (fun a b => a.1 < b.1)

theorem key_lt_asymm {a b : Key} (h : a < b) : ¬ b < a := List.lt_asymm h

/-- The map `f` with `k` sent to `x`: what `insert` and `erase` do to `get`. -/
def upd (f : Key → Option Val) (k : Key) (x : Option Val) : Key → Option Val :=
  fun a => if a = k then x else f a

theorem upd_upd (f : Key → Option Val) (k : Key) (x y : Option Val) :
    upd (upd f k x) k y = upd f k y := by
  funext a
  unfold upd
  split <;> rfl

theorem upd_comm (f : Key → Option Val) {j k : Key} (h : j ≠ k) (x y : Option Val) :
    upd (upd f j x) k y = upd (upd f k y) j x := by
  funext a
  unfold upd
  by_cases ha : a = j
  · rw [if_pos ha, if_pos ha, if_neg (ha ▸ h)]
  · rw [if_neg ha, if_neg ha]

theorem get_nil (k : Key) : get [] k = none := rfl

theorem get_cons (k : Key) (v : Val) (t : Store) : get ((k, v) :: t) = upd (get t) k (some v) := by
  funext a
  rw [get, List.lookup_cons, upd]
  by_cases h : a = k
  · rw [if_pos h, beq_iff_eq.mpr h]
  · rw [if_neg h, beq_eq_false_iff_ne.mpr h]; rfl

theorem get_insert (k : Key) (v : Val) (s : Store) : get (insert k v s) = upd (get s) k (some v) := by
  fun_induction insert k v s with
  | case1 | case2 => exact get_cons ..
  | case3 => rw [get_cons, get_cons, upd_upd]
  | case4 _ _ _ _ h ih => rw [get_cons, ih, get_cons, upd_comm _ h]

theorem erase_cons_self (k : Key) (v : Val) (t : Store) : erase k ((k, v) :: t) = erase k t :=
  List.filter_cons_of_neg (by simp)

theorem erase_cons_other {k k' : Key} (h : k' ≠ k) (v : Val) (t : Store) :
    erase k ((k', v) :: t) = (k', v) :: erase k t :=
  List.filter_cons_of_pos (bne_iff_ne.mpr h)

theorem get_erase (k : Key) (s : Store) : get (erase k s) = upd (get s) k none := by
  induction s with
  | nil => exact funext fun _ => (ite_self _).symm
  | cons hd t ih =>
    obtain ⟨k0, v0⟩ := hd
    by_cases h : k0 = k
    · rw [h, erase_cons_self, ih, get_cons, upd_upd]
    · rw [erase_cons_other h, get_cons, ih, get_cons, upd_comm _ h]

theorem sorted_nil : Sorted [] := List.Pairwise.nil

theorem mem_insert_key {s : Store} {k : Key} {v : Val} {p : Key × Val}
    (h : p ∈ insert k v s) : p = (k, v) ∨ p ∈ s := by
  fun_induction insert k v s with
  | case1 | case2 => exact List.mem_cons.mp h
  | case3 => exact (List.mem_cons.mp h).imp_right (List.mem_cons_of_mem _)
  | case4 _ _ _ _ _ ih =>
    rcases List.mem_cons.mp h with h | h
    · exact Or.inr (h ▸ List.mem_cons_self)
    · exact (ih h).imp_right (List.mem_cons_of_mem _)

theorem sorted_insert {s : Store} (hs : Sorted s) (k : Key) (v : Val) : Sorted (insert k v s) := by
  fun_induction insert k v s with
  | case1 => exact List.pairwise_singleton ..
  | case2 k' _ _ h =>
    refine List.pairwise_cons.mpr ⟨fun p hp => ?_, hs⟩
    rcases List.mem_cons.mp hp with rfl | hp
    · exact h
    · exact List.lt_trans h (List.rel_of_pairwise_cons hs hp)
  | case3 => exact List.pairwise_cons.mpr (List.pairwise_cons.mp hs)
  | case4 k' _ _ hlt hne ih =>
    obtain ⟨hhd, htl⟩ := List.pairwise_cons.mp hs
    refine List.pairwise_cons.mpr ⟨fun p hp => ?_, ih htl⟩
    rcases mem_insert_key hp with rfl | hp
    · exact Std.lt_of_le_of_ne (List.not_lt.mp hlt) (Ne.symm hne)
    · exact hhd p hp

theorem sorted_erase {s : Store} (hs : Sorted s) (k : Key) : Sorted (erase k s) :=
  List.Pairwise.filter _ hs

theorem sorted_applyOp {s : Store} (hs : Sorted s) : (op : BOp) → Sorted (applyOp s op)
  | .put k v => sorted_insert hs k v
  | .del k => sorted_erase hs k

/-- In a sorted store membership and lookup coincide: the keys before an entry are smaller than
its key, so lookup does not stop at them. -/
theorem mem_iff_get {s : Store} (hs : Sorted s) (k : Key) (v : Val) :
    (k, v) ∈ s ↔ get s k = some v := by
  rw [get, List.lookup_eq_some_iff]
  constructor
  · intro h
    obtain ⟨l₁, l₂, rfl⟩ := List.append_of_mem h
    refine ⟨l₁, l₂, rfl, fun p hp => ?_⟩
    have : p.1 < k := (List.pairwise_append.mp hs).2.2 p hp _ List.mem_cons_self
    exact bne_iff_ne.mpr fun e => List.lt_irrefl k (e ▸ this)
  · rintro ⟨l₁, l₂, rfl, _⟩
    exact List.mem_append_right _ List.mem_cons_self

end QuaiVerif.KV
