import QuaiVerif.Model.Trie
/- The vocabulary of the trie proofs (C18): terminated keys and where they can be cut, what `get` reads on each form of
node, well-formedness seen through `Behind`, the case analysis "a terminated key meets a well-formed trie"
(`WF.key_induction`) on which every theorem about `insert` and `delete` rests, and `Upd`, the form their lookup
theorems take. -/
namespace QuaiVerif.Trie

/-- all nibbles below 16 -/
def Nib (k : List Nat) : Prop := ∀ x ∈ k, x < 16

/-- a key (suffix) as the Go code holds it: nibbles followed by the terminator 16 -/
def HexKey (k : List Nat) : Prop := ∃ b, k = b ++ [16] ∧ Nib b

def NotValue : Node → Prop
  | .value _ => False
  | _ => True

/-- well-formed subtrie for terminated keys: values sit exactly behind a terminator -/
inductive WF : Node → Prop where
  | nil : WF .nil
  | leaf (b : List Nat) (v : Bytes) : Nib b → WF (.short (b ++ [16]) (.value v))
  | ext (k : List Nat) (c : Node) : Nib k → k ≠ [] → WF c → NotValue c → WF (.short k c)
  | full (cs : Nat → Node) : (∀ i, i < 16 → WF (cs i)) → (∀ i, i < 16 → NotValue (cs i)) →
      (cs 16 = .nil ∨ ∃ v, cs 16 = .value v) → WF (.full cs)

theorem nib_nil : Nib [] := fun _ h => nomatch h
theorem nib_cons {x : Nat} {k : List Nat} : Nib (x :: k) ↔ x < 16 ∧ Nib k := by
  unfold Nib; simp
theorem nib_append {a b : List Nat} : Nib (a ++ b) ↔ Nib a ∧ Nib b := by
  unfold Nib; simp [or_imp, forall_and]
theorem nib_singleton {x : Nat} : Nib [x] ↔ x < 16 := nib_cons.trans (and_iff_left nib_nil)

theorem hexKey_ne_nil {k : List Nat} (h : HexKey k) : k ≠ [] := by
  obtain ⟨b, rfl, _⟩ := h; simp

theorem nib_not_hexKey {k : List Nat} (hn : Nib k) (h : HexKey k) : False := by
  obtain ⟨b, rfl, _⟩ := h
  exact Nat.lt_irrefl 16 (hn 16 (by simp))

/-- where a terminated key can be cut: before the terminator, leaving a terminated key, or after it, leaving
nothing.  Prefix-freeness and every other fact about parts of keys used below is a case of this. -/
theorem hexKey_append_iff {p r : List Nat} : HexKey (p ++ r) ↔ (Nib p ∧ HexKey r) ∨ (HexKey p ∧ r = []) := by
  constructor
  · rintro ⟨b, e, hb⟩
    -- the terminator is the last element of `r`, if `r` has one
    rcases List.eq_nil_or_concat r with rfl | ⟨s, y, rfl⟩
    · exact Or.inr ⟨⟨b, by simpa using e, hb⟩, rfl⟩
    · rw [List.concat_eq_append] at e ⊢
      obtain ⟨rfl, hy⟩ := List.append_inj' ((List.append_assoc ..).trans e) rfl
      cases hy
      exact Or.inl ⟨(nib_append.mp hb).1, s, rfl, (nib_append.mp hb).2⟩
  · rintro (⟨hp, b, rfl, hb⟩ | ⟨h, rfl⟩)
    · exact ⟨p ++ b, (List.append_assoc ..).symm, nib_append.mpr ⟨hp, hb⟩⟩
    · rwa [List.append_nil]

/-- hex keys are prefix free -/
theorem hexKey_prefix_free {a r : List Nat} (ha : HexKey a) (hb : HexKey (a ++ r)) : r = [] :=
  (hexKey_append_iff.mp hb).elim (fun h => (nib_not_hexKey h.1 ha).elim) (·.2)

theorem hexKey_after_nib {p r : List Nat} (hp : Nib p) (h : HexKey (p ++ r)) : HexKey r :=
  (hexKey_append_iff.mp h).elim (·.2) (fun h => (nib_not_hexKey hp h.1).elim)

theorem hexKey_append {p r : List Nat} (hp : Nib p) (h : HexKey r) : HexKey (p ++ r) :=
  hexKey_append_iff.mpr (Or.inl ⟨hp, h⟩)

theorem hexKey_singleton {x : Nat} : HexKey [x] ↔ x = 16 :=
  ⟨fun ⟨b, e, _⟩ => by simpa using congrArg List.getLast? e, fun h => ⟨[], h ▸ rfl, nib_nil⟩⟩

theorem hexKey_16 : HexKey [16] := hexKey_singleton.mpr rfl

theorem hexKey_cons_iff {x : Nat} {k : List Nat} : HexKey (x :: k) ↔ (x = 16 ∧ k = []) ∨ (x < 16 ∧ HexKey k) := by
  rw [← List.singleton_append, hexKey_append_iff, nib_singleton, hexKey_singleton, or_comm]

theorem hexKey_head_lt {x : Nat} {k : List Nat} (h : HexKey (x :: k)) : x < 17 :=
  (hexKey_cons_iff.mp h).elim (fun h => h.1 ▸ Nat.lt_succ_self 16) fun h => Nat.lt_succ_of_lt h.1

theorem get_short (k : List Nat) (c : Node) (key : List Nat) :
    get (.short k c) key = if k.isPrefixOf key then get c (key.drop k.length) else none := by
  cases key <;> rfl

theorem get_nil (key : List Nat) : get .nil key = none := by cases key <;> rfl

theorem get_value_cons (v : Bytes) (x : Nat) (r : List Nat) : get (.value v) (x :: r) = none := rfl

theorem get_full_cons (cs : Nat → Node) (x : Nat) (r : List Nat) : get (.full cs) (x :: r) = get (cs x) r := rfl

theorem get_short_append (k : List Nat) (c : Node) (r : List Nat) : get (.short k c) (k ++ r) = get c r := by
  rw [get_short, List.isPrefixOf_iff_prefix.mpr (List.prefix_append k r), if_pos rfl, List.drop_left]

theorem get_short_none {k key : List Nat} (c : Node) (h : ¬ k <+: key) : get (.short k c) key = none := by
  rw [get_short, if_neg (mt List.isPrefixOf_iff_prefix.mp h)]

/-- `mk` differs from `.short` only in not building a node for the empty key, which no lookup sees -/
theorem get_mk (k : List Nat) (c : Node) (q : List Nat) : get (mk k c) q = get (.short k c) q := by
  unfold mk
  split
  · next h => subst h; exact (get_short_append [] c q).symm
  · rfl

theorem get_short_congr {c d : Node} (h : ∀ q, get c q = get d q) (k q : List Nat) :
    get (.short k c) q = get (.short k d) q := by
  rw [get_short, get_short, h]

/-- a short node reads like two short nodes in a row -/
theorem get_short_split (k k2 : List Nat) (c : Node) (q : List Nat) :
    get (.short (k ++ k2) c) q = get (.short k (.short k2 c)) q := by
  by_cases h : k <+: q
  · obtain ⟨r, rfl⟩ := h
    rw [get_short_append]
    by_cases h2 : k2 <+: r
    · obtain ⟨s, rfl⟩ := h2
      rw [← List.append_assoc, get_short_append, get_short_append]
    · rw [get_short_none c h2, get_short_none c (mt (List.prefix_append_right_inj k).mp h2)]
  · rw [get_short_none _ h, get_short_none c (mt (List.prefix_append k k2).trans h)]

/-- a short node reads like a branch with one child: what `insert` relies on when it splits a short node -/
theorem get_short_cons (a : Nat) (ra : List Nat) (c : Node) (q : List Nat) :
    get (.short (a :: ra) c) q = get (.full (upd (fun _ => .nil) a (mk ra c))) q := by
  rw [show a :: ra = [a] ++ ra from rfl, get_short_split, get_short_congr (fun q => (get_mk ra c q).symm)]
  cases q with
  | nil => rw [get_short_none _ (by simp)]; rfl
  | cons y r =>
    rw [get_full_cons]
    unfold upd
    split
    · next h => subst h; exact get_short_append [y] _ r
    · next h => rw [get_nil, get_short_none _ (by simpa using Ne.symm h)]

theorem get_leaf (k : List Nat) (v : Bytes) (q : List Nat) :
    get (.short k (.value v)) q = if q = k then some v else none := by
  by_cases h : k <+: q
  · obtain ⟨r, rfl⟩ := h
    rw [get_short_append]
    cases r with
    | nil => rw [List.append_nil, if_pos rfl]; rfl
    | cons x r => rw [get_value_cons, if_neg (by simp)]
  · rw [get_short_none _ h, if_neg (by rintro rfl; exact h (List.prefix_refl _))]

theorem prefixLen_cons (a b : Nat) (as bs : List Nat) :
    prefixLen (a :: as) (b :: bs) = if a = b then prefixLen as bs + 1 else 0 := rfl

theorem prefixLen_le (a b : List Nat) : prefixLen a b ≤ a.length ∧ prefixLen a b ≤ b.length := by
  fun_induction prefixLen a b with
  | case1 as b bs ih => exact ⟨Nat.succ_le_succ ih.1, Nat.succ_le_succ ih.2⟩
  | case2 | case3 => exact ⟨Nat.zero_le _, Nat.zero_le _⟩

theorem prefixLen_le_left (a b : List Nat) : prefixLen a b ≤ a.length := (prefixLen_le a b).1

theorem prefixLen_le_right (a b : List Nat) : prefixLen a b ≤ b.length := (prefixLen_le a b).2

theorem prefixLen_nil_right (a : List Nat) : prefixLen a [] = 0 := by cases a <;> rfl

theorem prefixLen_append (p a b : List Nat) : prefixLen (p ++ a) (p ++ b) = p.length + prefixLen a b := by
  induction p with
  | nil => simp
  | cons x p ih => simp [prefixLen_cons, ih]; omega

theorem prefixLen_prefix (k r : List Nat) : prefixLen (k ++ r) k = k.length := by
  simpa [prefixLen_nil_right] using prefixLen_append k r []

theorem prefixLen_fork (p : List Nat) {x a : Nat} (rk ra : List Nat) (hxa : x ≠ a) :
    prefixLen (p ++ x :: rk) (p ++ a :: ra) = p.length := by
  rw [prefixLen_append, prefixLen_cons, if_neg hxa]; rfl

/-- the three ways a key `key` can meet a short node's key `k`: it runs through it, it ends inside it, or the two
part ways -/
theorem key_cases (key k : List Nat) :
    (∃ r, key = k ++ r) ∨ (∃ r, r ≠ [] ∧ k = key ++ r) ∨
    (∃ p x rk a ra, key = p ++ x :: rk ∧ k = p ++ a :: ra ∧ x ≠ a) := by
  fun_induction prefixLen key k with
  | case1 rk x ra ih =>
    rcases ih with ⟨r, rfl⟩ | ⟨r, hr, rfl⟩ | ⟨p, y, rk, a, ra, rfl, rfl, hya⟩
    · exact Or.inl ⟨r, rfl⟩
    · exact Or.inr (Or.inl ⟨r, hr, rfl⟩)
    · exact Or.inr (Or.inr ⟨x :: p, y, rk, a, ra, rfl, rfl, hya⟩)
  | case2 x rk a ra hxa => exact Or.inr (Or.inr ⟨[], x, rk, a, ra, rfl, rfl, hxa⟩)
  | case3 key k h =>
    cases k with
    | nil => exact Or.inl ⟨key, rfl⟩
    | cons a ra =>
      cases key with
      | nil => exact Or.inr (Or.inl ⟨a :: ra, List.cons_ne_nil a ra, rfl⟩)
      | cons x rk => exact (h x rk a ra rfl rfl).elim

theorem upd_same (cs : Nat → Node) (x : Nat) (n : Node) : upd cs x n x = n := by simp [upd]
theorem upd_other {cs : Nat → Node} {x y : Nat} {n : Node} (h : y ≠ x) : upd cs x n y = cs y := by simp [upd, h]

theorem forall_upd {Q : Nat → Node → Prop} {cs : Nat → Node} {x : Nat} {n : Node}
    (h : ∀ i, Q i (cs i)) (hn : Q x n) (i : Nat) : Q i (upd cs x n i) := by
  unfold upd
  split
  · next e => exact e ▸ hn
  · exact h i

theorem WF.notValue {t : Node} (h : WF t) : NotValue t := by cases h <;> trivial

theorem WF.child {cs : Nat → Node} (h : WF (.full cs)) {i : Nat} (hi : i < 16) : WF (cs i) := by
  cases h with
  | full _ h _ _ => exact h i hi

/-- what may hang behind the key stretch `k` in a well-formed trie: a value exactly when `k` ends in the terminator.
It describes the leaf and the extension form of a short node, and the children of a branch, in one way. -/
def Behind (k : List Nat) (c : Node) : Prop := (HexKey k ∧ ∃ v, c = .value v) ∨ (Nib k ∧ WF c)

theorem behind_singleton {i : Nat} {c : Node} : Behind [i] c ↔ (i = 16 ∧ ∃ v, c = .value v) ∨ (i < 16 ∧ WF c) := by
  rw [Behind, hexKey_singleton, nib_singleton]

/-- nibbles can be moved out of the stretch: they do not decide what may hang behind it -/
theorem behind_append {k k2 : List Nat} {c : Node} (h2 : k2 ≠ []) : Behind (k ++ k2) c ↔ Nib k ∧ Behind k2 c := by
  have hk : HexKey (k ++ k2) ↔ Nib k ∧ HexKey k2 := hexKey_append_iff.trans (or_iff_left fun h => h2 h.2)
  simp only [Behind, hk, nib_append, and_assoc, and_or_left]

theorem wf_short_iff {k : List Nat} {c : Node} : WF (.short k c) ↔ k ≠ [] ∧ Behind k c := by
  constructor
  · intro h
    cases h with
    | leaf b v hb => exact ⟨by simp, Or.inl ⟨⟨b, rfl, hb⟩, v, rfl⟩⟩
    | ext _ _ hk hne hc _ => exact ⟨hne, Or.inr ⟨hk, hc⟩⟩
  · rintro ⟨hne, ⟨⟨b, rfl, hb⟩, v, rfl⟩ | ⟨hk, hc⟩⟩
    · exact WF.leaf b v hb
    · exact WF.ext k c hk hne hc hc.notValue

theorem wf_leaf {k : List Nat} (hk : HexKey k) (v : Bytes) : WF (.short k (.value v)) :=
  wf_short_iff.mpr ⟨hexKey_ne_nil hk, Or.inl ⟨hk, v, rfl⟩⟩

theorem wf_full_iff {cs : Nat → Node} : WF (.full cs) ↔ ∀ i, i ≤ 16 → cs i = .nil ∨ Behind [i] (cs i) := by
  simp only [behind_singleton]
  constructor
  · intro h i hi
    cases h with
    | full _ h1 _ h3 =>
      rcases Nat.lt_or_eq_of_le hi with hi | rfl
      · exact Or.inr (Or.inr ⟨hi, h1 i hi⟩)
      · exact h3.imp id fun h => Or.inl ⟨rfl, h⟩
  · intro h
    have hwf : ∀ i, i < 16 → WF (cs i) := by
      intro i hi
      rcases h i (Nat.le_of_lt hi) with h | ⟨rfl, _⟩ | ⟨_, h⟩
      · exact h ▸ WF.nil
      · exact absurd hi (Nat.lt_irrefl 16)
      · exact h
    refine WF.full cs hwf (fun i hi => (hwf i hi).notValue) ?_
    rcases h 16 (Nat.le_refl 16) with h | ⟨_, h⟩ | ⟨h, _⟩
    · exact Or.inl h
    · exact Or.inr h
    · exact absurd h (Nat.lt_irrefl 16)

theorem wf_mk {k : List Nat} {c : Node} (h : Behind k c) : WF (mk k c) := by
  unfold mk
  split
  · next e => subst e; exact h.elim (fun h => absurd rfl (hexKey_ne_nil h.1)) (·.2)
  · next e => exact wf_short_iff.mpr ⟨e, h⟩

/-- what hangs behind `a :: ra` hangs, packed by `mk`, in slot `a` of a branch -/
theorem behind_cons {a : Nat} {ra : List Nat} {c : Node} (h : Behind (a :: ra) c) : Behind [a] (mk ra c) := by
  by_cases e : ra = []
  · subst e; exact h
  · have h := (behind_append (k := [a]) e).mp h
    exact Or.inr ⟨h.1, wf_mk h.2⟩

theorem wf_full_nil : WF (.full fun _ => .nil) := wf_full_iff.mpr fun _ _ => Or.inl rfl

theorem wf_full_upd {cs : Nat → Node} {x : Nat} {n : Node} (h : WF (.full cs)) (hn : n = .nil ∨ Behind [x] n) :
    WF (.full (upd cs x n)) :=
  wf_full_iff.mpr (forall_upd (Q := fun i n => i ≤ 16 → n = .nil ∨ Behind [i] n) (wf_full_iff.mp h) fun _ => hn)

/-- **a terminated key meets a well-formed trie** in one of five ways.  `insert` and `delete` have an equation for
each (Lemmas/TrieOps.lean), so a proof about either names its motive and says what happens in each situation. -/
@[elab_as_elim] theorem WF.key_induction {motive : Node → List Nat → Prop} {t : Node} (hwf : WF t) {key : List Nat} (hk : HexKey key)
    (nil : ∀ key, HexKey key → motive .nil key)
    (hit : ∀ k w, HexKey k → motive (.short k (.value w)) k)
    (below : ∀ k c r, Nib k → k ≠ [] → WF c → HexKey r → motive c r → motive (.short k c) (k ++ r))
    (fork : ∀ p x rk a ra c, x ≠ a → Nib p → Behind (a :: ra) c → HexKey (x :: rk) →
      motive (.short (p ++ a :: ra) c) (p ++ x :: rk))
    (full : ∀ cs x rest, WF (.full cs) → (x = 16 ∧ rest = [] ∨ x < 16 ∧ HexKey rest ∧ motive (cs x) rest) →
      motive (.full cs) (x :: rest)) : motive t key := by
  induction t generalizing key with
  | nil => exact nil key hk
  | value v => cases hwf
  | short k c ih =>
    have ⟨hne, hc⟩ := wf_short_iff.mp hwf
    rcases key_cases key k with ⟨r, rfl⟩ | ⟨r, hr, rfl⟩ | ⟨p, x, rk, a, ra, rfl, rfl, hxa⟩
    · rcases hc with ⟨hkk, w, rfl⟩ | ⟨hnk, hc⟩
      · cases hexKey_prefix_free hkk hk
        rw [List.append_nil]; exact hit k w hkk
      · have hr := hexKey_after_nib hnk hk
        exact below k c r hnk hne hc hr (ih hc hr)
    · exact (nib_not_hexKey ((behind_append hr).mp hc).1 hk).elim
    · have ⟨hp, ha⟩ := (behind_append (List.cons_ne_nil a ra)).mp hc
      exact fork p x rk a ra c hxa hp ha (hexKey_after_nib hp hk)
  | full cs ih =>
    obtain ⟨x, rest, rfl⟩ := List.exists_cons_of_ne_nil (hexKey_ne_nil hk)
    exact full cs x rest hwf ((hexKey_cons_iff.mp hk).imp id fun ⟨hx, hr⟩ => ⟨hx, hr, ih x (hwf.child hx) hr⟩)

/-- `t'` answers every terminated key as `t` does, except that `key` now gives `o` -/
def Upd (t' t : Node) (key : List Nat) (o : Option Bytes) : Prop :=
  ∀ q, HexKey q → get t' q = if q = key then o else get t q

theorem Upd.leaf (k : List Nat) (v : Bytes) : Upd (mk k (.value v)) .nil k (some v) := by
  intro q _
  rw [get_mk, get_leaf, get_nil]

theorem Upd.short {d c : Node} {r k : List Nat} {o : Option Bytes} (hk : Nib k) (h : Upd d c r o) :
    Upd (.short k d) (.short k c) (k ++ r) o := by
  intro q hq
  by_cases hp : k <+: q
  · obtain ⟨s, rfl⟩ := hp
    rw [get_short_append, get_short_append, h s (hexKey_after_nib hk hq)]
    simp only [List.append_right_inj]
  · rw [get_short_none _ hp, get_short_none _ hp, if_neg (by rintro rfl; exact hp (List.prefix_append _ _))]

/-- a branch with the child in slot `x` changed, in the two shapes the slot has in `WF.key_induction`: the
terminator's slot, where the key ends, and a nibble's slot, where the rest of the key is looked up in the child -/
theorem Upd.full {cs : Nat → Node} {x : Nat} {d : Node} {rest : List Nat} {o : Option Bytes}
    (h : x = 16 ∧ rest = [] ∧ get d [] = o ∨ x < 16 ∧ Upd d (cs x) rest o) :
    Upd (.full (upd cs x d)) (.full cs) (x :: rest) o := by
  intro q hq
  obtain ⟨y, r, rfl⟩ := List.exists_cons_of_ne_nil (hexKey_ne_nil hq)
  rw [get_full_cons, get_full_cons]
  by_cases hyx : y = x
  · subst hyx
    rw [upd_same]
    rcases h with ⟨rfl, rfl, h⟩ | ⟨hy, h⟩ <;> rcases hexKey_cons_iff.mp hq with ⟨e, rfl⟩ | ⟨hy', hr⟩
    · simpa using h
    · exact absurd hy' (Nat.lt_irrefl 16)
    · exact absurd (e ▸ hy) (Nat.lt_irrefl 16)
    · rw [h r hr]; simp
  · rw [upd_other hyx]; simp [hyx]

end QuaiVerif.Trie
