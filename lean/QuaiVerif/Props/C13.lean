import QuaiVerif.Model.Lockup
import QuaiVerif.Gen.LockupFacts
import QuaiVerif.Lemmas.Guard
/-
C13 — Mining rewards and lockups pay out exactly once, no earlier, no more.
This file: the contract-held lockup ledger (accumulate per (contract, miner, period, epoch); claim only
by the owning contract, only after the tranche unlock height, only once, for exactly the balance).
Tie: T2 area `lockup` (real AddNewLock, real lockup precompile through EVM.Call on a real batch,
claims before/at/after unlock, repeated, by non-owners, twice in one block, inside reverted frames).
The payout schedule of plain locked rewards (RedeemLockedQuai) is Props/C13b.lean and C13c.lean, the reward
split between the shares and the time discount Props/C13d.lean.
-/
namespace QuaiVerif.Lockup

theorem upd_same (l : Ledger) (k : Key) (v : Option Rec) : upd l k v k = v := if_pos rfl

theorem upd_other {l : Ledger} {k k' : Key} {v : Option Rec} (h : k' ≠ k) : upd l k v k' = l k' := if_neg h

theorem readRec_upd_self (l : Ledger) (k : Key) (r : Rec) : readRec (upd l k (some r)) k = r := by
  rw [readRec, upd_same]; rfl

/-- a record that reads with a non-zero unlock height is really there (the zero record stands for "absent") -/
theorem readRec_unlock_ne_zero {l : Ledger} {k : Key} (h : (readRec l k).unlock ≠ 0) : l k = some (readRec l k) := by
  cases hk : l k with
  | none => rw [readRec, hk] at h; exact absurd rfl h
  | some r => rw [readRec, hk]; rfl

theorem claim_ok_iff (eb : Nat) (l : Ledger) (i : ClaimIn) (res : Ledger × Nat × Nat) :
    let k : Key := (i.caller, i.miner, i.lockupByte, i.epoch)
    let r := readRec l k
    claim eb l i = .ok res ↔
      i.etxGasLimit ≤ i.gas ∧ i.epoch < i.blockNumber / eb + 1 ∧ i.sameLedger = true ∧
      r.unlock ≠ 0 ∧ r.unlock ≤ i.blockNumber ∧ r.elements ≠ 0 ∧ i.cacheLen ≤ 65535 ∧
      (upd l k none, i.gas - i.etxGasLimit, r.balance) = res := by
  simp only [claim, ite_error_eq_ok, Except.ok.injEq, Nat.not_lt, Nat.not_le, Bool.not_eq_true', Bool.not_eq_false]

/-- **C13 (claim conditions and amount)** a successful claim is by the owner named in the key (the
caller), for a past epoch, of an existing record whose tranche is unlocked; it deletes the record and
emits exactly the accumulated balance. -/
theorem C13_claim_ok_implies (eb : Nat) (l l' : Ledger) (i : ClaimIn) (g v : Nat)
    (h : claim eb l i = .ok (l', g, v)) :
    i.epoch < i.blockNumber / eb + 1 ∧
    (∃ r, l (i.caller, i.miner, i.lockupByte, i.epoch) = some r ∧ r.unlock ≠ 0 ∧ r.unlock ≤ i.blockNumber ∧ r.elements ≠ 0 ∧ v = r.balance) ∧
    l' (i.caller, i.miner, i.lockupByte, i.epoch) = none ∧
    (∀ k', k' ≠ (i.caller, i.miner, i.lockupByte, i.epoch) → l' k' = l k') ∧ g = i.gas - i.etxGasLimit := by
  obtain ⟨_, he, _, hu, hb, hn, _, ⟨⟩⟩ := (claim_ok_iff ..).mp h
  exact ⟨he, ⟨_, readRec_unlock_ne_zero hu, hu, hb, hn, rfl⟩, upd_same .., fun _ => upd_other, rfl⟩

/-- **C13 (claim once)** after a successful claim a second claim of the same tranche fails. -/
theorem C13_second_claim_fails (eb : Nat) (l l' : Ledger) (i i2 : ClaimIn) (g v : Nat)
    (h : claim eb l i = .ok (l', g, v))
    (hsame : i2.caller = i.caller ∧ i2.miner = i.miner ∧ i2.lockupByte = i.lockupByte ∧ i2.epoch = i.epoch) :
    ∀ r, claim eb l' i2 ≠ .ok r := by
  -- the first claim left no record under the key; a second successful claim would have found one
  intro (l2, g2, v2) hc
  obtain ⟨_, ⟨r, hr, _⟩, _⟩ := C13_claim_ok_implies _ _ _ _ _ _ hc
  rw [hsame.1, hsame.2.1, hsame.2.2.1, hsame.2.2.2, (C13_claim_ok_implies _ _ _ _ _ _ h).2.2.1] at hr
  cases hr

/-- **C13 (only the owning contract)** a claim by caller `c` never touches a record owned by another contract. -/
theorem C13_claim_only_own (eb : Nat) (l l' : Ledger) (i : ClaimIn) (g v : Nat)
    (h : claim eb l i = .ok (l', g, v)) (k' : Key) (ho : k'.1 ≠ i.caller) : l' k' = l k' :=
  (C13_claim_ok_implies eb l l' i g v h).2.2.2.1 k' fun e => ho (congrArg Prod.fst e)

theorem addNewLock_fresh {vr : Variant} {eb : Nat} {l : Ledger} {k : Key} {d uh v : Nat} {res : AddResult}
    (h0 : (readRec l k).unlock = 0) :
    let r : Rec := ⟨v, uh - uh % eb, 1, d⟩
    addNewLock vr eb l k d uh v = .ok res ↔ v ≠ 0 ∧ ⟨upd l k (some r), false, none, r⟩ = res := by
  simp only [addNewLock, ite_error_eq_ok, h0, if_true, Except.ok.injEq, ne_eq, not_true, decide_false, Bool.false_and,
    Bool.and_false, Bool.false_eq_true, not_false_eq_true, true_and]

theorem addNewLock_existing {vr : Variant} {eb : Nat} {l : Ledger} {k : Key} {d uh v : Nat} {res : AddResult}
    (h0 : (readRec l k).unlock ≠ 0) :
    let old := readRec l k
    let r : Rec := ⟨old.balance + v, old.unlock, old.elements + 1, d⟩
    addNewLock vr eb l k d uh v = .ok res ↔ v ≠ 0 ∧ old.unlock ≤ uh ∧ k.2.2.2 ≠ 0 ∧
      ⟨upd l k (some r), true, some { old with delegate := if vr.undoUsesOldDelegate then old.delegate else d }, r⟩ = res := by
  simp only [addNewLock, ite_error_eq_ok, h0, if_false, Except.ok.injEq, ne_eq, not_false_eq_true, decide_true, Bool.true_and,
    Bool.and_true, decide_eq_true_eq, Nat.not_lt]

/-- **C13 (accumulation)** adding a reward to an existing tranche increases its balance by exactly the
value, counts the element and keeps the tranche unlock height; a fresh tranche starts at the value with
the epoch-aligned unlock height. -/
theorem C13_add_accumulates (vr : Variant) (eb : Nat) (l : Ledger) (k : Key) (d uh v : Nat) (res : AddResult)
    (h : addNewLock vr eb l k d uh v = .ok res) :
    0 < v ∧ res.ledger k = some res.stored ∧ (∀ k', k' ≠ k → res.ledger k' = l k') ∧
    (((readRec l k).unlock ≠ 0 ∧ res.stored.balance = (readRec l k).balance + v ∧ res.stored.elements = (readRec l k).elements + 1 ∧
        res.stored.unlock = (readRec l k).unlock ∧ (readRec l k).unlock ≤ uh) ∨
     ((readRec l k).unlock = 0 ∧ res.stored.balance = v ∧ res.stored.elements = 1 ∧ res.stored.unlock = uh - uh % eb)) := by
  by_cases h0 : (readRec l k).unlock = 0
  · obtain ⟨hv, rfl⟩ := (addNewLock_fresh h0).mp h
    exact ⟨Nat.pos_of_ne_zero hv, upd_same .., fun _ => upd_other, .inr ⟨h0, rfl, rfl, rfl⟩⟩
  · obtain ⟨hv, hle, _, rfl⟩ := (addNewLock_existing h0).mp h
    exact ⟨Nat.pos_of_ne_zero hv, upd_same .., fun _ => upd_other, .inl ⟨h0, rfl, rfl, rfl, hle⟩⟩

/-- the balance of a tranche after a run of additions is the sum of the values added -/
theorem C13_balance_is_sum (vr : Variant) (eb : Nat) (k : Key) (adds : List (Nat × Nat × Nat)) :
    ∀ (l lf : Ledger), (readRec l k).unlock ≠ 0 →
      (adds.foldlM (fun l (a : Nat × Nat × Nat) => (addNewLock vr eb l k a.1 a.2.1 a.2.2).map (·.ledger)) l) = .ok lf →
      (readRec lf k).balance = (readRec l k).balance + (adds.map (·.2.2)).sum ∧
      (readRec lf k).elements = (readRec l k).elements + adds.length ∧ (readRec lf k).unlock = (readRec l k).unlock := by
  induction adds with
  | nil => intro l lf _ h; cases h; exact ⟨rfl, rfl, rfl⟩
  | cons a rest ih =>
    intro l lf hu h
    rw [List.foldlM_cons] at h
    cases hr : addNewLock vr eb l k a.1 a.2.1 a.2.2 with
    | error e => rw [hr] at h; cases h
    | ok res =>
      rw [hr] at h
      obtain ⟨_, _, _, rfl⟩ := (addNewLock_existing hu).mp hr
      have := ih _ lf (by rw [readRec_upd_self]; exact hu) h
      simp only [readRec_upd_self] at this ⊢
      rwa [Nat.add_assoc, Nat.add_assoc, Nat.add_comm 1] at this

/-- **S7 (fixed variant)** the undo record written when a tranche is updated is the old record,
including its old delegate — so a reorg restores exactly what was there. -/
theorem C13_undo_record_is_old (vr : Variant) (hv : vr.undoUsesOldDelegate = true) (eb : Nat) (l : Ledger) (k : Key)
    (d uh v : Nat) (res : AddResult) (h : addNewLock vr eb l k d uh v = .ok res) (hd : res.deleted = true) :
    res.undo = l k := by
  by_cases h0 : (readRec l k).unlock = 0
  · obtain ⟨_, rfl⟩ := (addNewLock_fresh h0).mp h
    cases hd
  · obtain ⟨_, _, _, rfl⟩ := (addNewLock_existing h0).mp h
    rw [readRec_unlock_ne_zero h0, hv]
    rfl

theorem C13_counterexample_undo_delegate :
    let l : Ledger := upd (fun _ => none) (1, 2, 1, 3) (some { balance := 10, unlock := 100000, elements := 1, delegate := 7 })
    (match addNewLock { undoUsesOldDelegate := false } 50000 l (1, 2, 1, 3) 9 100000 5 with
      | .ok res => res.undo.map (·.delegate)
      | .error _ => none) = some 9 := by decide

/-- **C13 (T1)** the current source writes the undo record with the old delegate - the variant `C13_undo_record_is_old`
is stated for - and restores claimed records when a frame reverts (that switch is read by the driver's frame stack only:
no theorem here depends on it). -/
theorem C13_current_tree_variant : Gen.lockupUndoUsesOldDelegate = true ∧ Gen.revertRestoresLockupBatch = true := by decide

/-! ### Non-vacuity -/
example : (match claim 50000 (upd (fun _ => none) (1, 2, 1, 0) (some { balance := 10, unlock := 50000, elements := 2, delegate := 0 }))
    { caller := 1, miner := 2, lockupByte := 1, epoch := 0, blockNumber := 60000, gas := 100000, etxGasLimit := 21000, sameLedger := true, cacheLen := 0 } with
    | .ok (_, g, v) => some (g, v) | .error _ => none) = some (79000, 10) := by decide

end QuaiVerif.Lockup
