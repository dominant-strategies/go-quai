/-
The models are written as chains of guards in code order, `if c₁ then reject else if c₂ then reject else … accept`.
These equations turn "the chain accepted" into the conjunction of the negated guards in one `simp only` pass,
instead of one case split per guard.
-/
namespace QuaiVerif

theorem ite_error_eq_ok {ε α : Type} {c : Prop} [Decidable c] {e : ε} {x : Except ε α} {r : α} :
    (if c then Except.error e else x) = .ok r ↔ ¬ c ∧ x = .ok r := by
  split <;> simp [*]

theorem ite_none_eq_some {α : Type} {c : Prop} [Decidable c] {x : Option α} {r : α} :
    (if c then none else x) = some r ↔ ¬ c ∧ x = some r := by
  split <;> simp [*]

/-- The case split itself, for a chain whose branches are not all rejections; with `reduceCtorEq` the rejecting
branches and the leaves that return something else disappear. -/
theorem ite_eq_ok {ε α : Type} {c : Prop} [Decidable c] {x y : Except ε α} {r : α} :
    (if c then x else y) = .ok r ↔ c ∧ x = .ok r ∨ ¬ c ∧ y = .ok r := by
  split <;> simp [*]

end QuaiVerif
