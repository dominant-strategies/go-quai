import QuaiVerif.Model.Snap
/-
C06 (cache warmth / flat state): a node that reads accounts and storage through the snapshot layers reads exactly the
content the blocks produced, however the layers have been merged since.

A layer acts on flat content (`toDisk`, which is also the specification `applyBlock`).  Reading through a stack is
applying its layers to the disk content, oldest first (`view_cons`), and `flatten` is the composition of two such
actions (`toDisk_flatten`); every theorem below is one of these two facts read at an account or a slot.
-/
namespace QuaiVerif.Snap

/-- What a reader sees through the stack `ls` (newest first) over `disk`. -/
def view (disk : Flat) (ls : List Layer) : Flat := ⟨readAcct disk ls, readStor disk ls⟩

theorem view_cons (disk : Flat) (l : Layer) (ls : List Layer) : view disk (l :: ls) = toDisk (view disk ls) l := rfl

/-- `flatten` at one account or slot: `co`, `cd` the child's write and destruct flag, `po`, `pd` the parent's,
`x` what is read below. -/
theorem getD_or_merge (co po : Option Nat) (cd pd : Bool) (x : Nat) :
    (co.or (if cd then none else po)).getD (if pd || cd then 0 else x)
      = co.getD (if cd then 0 else po.getD (if pd then 0 else x)) := by
  cases co <;> cases cd <;> cases pd <;> rfl

/-- Merging the child into the parent is applying the parent and then the child. -/
theorem toDisk_flatten (f : Flat) (p c : Layer) : toDisk f (flatten p c) = toDisk (toDisk f p) c := by
  show Flat.mk _ _ = Flat.mk _ _
  congr 1
  · funext a; exact getD_or_merge ..
  · funext a k; exact getD_or_merge ..

theorem view_flatten (disk : Flat) (p c : Layer) (ls : List Layer) :
    view disk (flatten p c :: ls) = view disk (c :: p :: ls) := toDisk_flatten (view disk ls) p c

theorem view_toDisk (disk : Flat) (l : Layer) (upper : List Layer) :
    view (toDisk disk l) upper = view disk (upper ++ [l]) := by
  induction upper with
  | nil => rfl
  | cons u us ih => rw [List.cons_append, view_cons, view_cons, ih]

theorem view_reverse (disk : Flat) (blocks : List Layer) : view disk blocks.reverse = contentOf disk blocks := by
  induction blocks generalizing disk with
  | nil => rfl
  | cons b bs ih => rw [List.reverse_cons, ← view_toDisk, ih]; rfl

theorem view_flattenAll (disk : Flat) :
    ∀ (l : Layer) (ls : List Layer), ∃ q, flattenAll (l :: ls) = some q ∧ view disk [q] = view disk (l :: ls)
  | l, [] => ⟨l, rfl, rfl⟩
  | c, p :: ls => by
    obtain ⟨q, hq, hv⟩ := view_flattenAll disk p ls
    exact ⟨flatten q c, by rw [flattenAll, hq], by rw [view_flatten, view_cons, hv, ← view_cons]⟩

theorem reads_of_view {d d' : Flat} {ls ls' : List Layer} (h : view d ls = view d' ls') (a k : Nat) :
    readStor d ls a k = readStor d' ls' a k ∧ readAcct d ls a = readAcct d' ls' a :=
  ⟨congrArg (·.stor a k) h, congrArg (·.acct a) h⟩

/-- **C06 (flatten preserves reads, storage).** Merging a layer into its parent changes no storage read, for any
stack below. -/
theorem C06_flatten_preserves_storage (disk : Flat) (p c : Layer) (ls : List Layer) (a k : Nat) :
    readStor disk (flatten p c :: ls) a k = readStor disk (c :: p :: ls) a k :=
  (reads_of_view (view_flatten disk p c ls) a k).1

/-- **C06 (flatten preserves reads, accounts).** -/
theorem C06_flatten_preserves_accounts (disk : Flat) (p c : Layer) (ls : List Layer) (a : Nat) :
    readAcct disk (flatten p c :: ls) a = readAcct disk (c :: p :: ls) a :=
  (reads_of_view (view_flatten disk p c ls) a 0).2

/-- **C06 (writing the lowest layer to disk preserves reads).** -/
theorem C06_to_disk_preserves_reads (disk : Flat) (l : Layer) (upper : List Layer) (a k : Nat) :
    readStor (toDisk disk l) upper a k = readStor disk (upper ++ [l]) a k ∧
    readAcct (toDisk disk l) upper a = readAcct disk (upper ++ [l]) a :=
  reads_of_view (view_toDisk disk l upper) a k

/-- **C06 (layers = content).** Reading through any stack of diff layers gives the content obtained by applying the
blocks in order to the disk content - what a node without snapshots computes. -/
theorem C06_layers_read_the_content (disk : Flat) (blocks : List Layer) (a k : Nat) :
    readStor disk blocks.reverse a k = (contentOf disk blocks).stor a k ∧
    readAcct disk blocks.reverse a = (contentOf disk blocks).acct a :=
  reads_of_view (ls' := []) (view_reverse disk blocks) a k   -- `view d []` is `d` (eta)

/-- **C06 (any merge of the lowest layers).** Flattening the whole stack into one layer and reading through it
equals reading through the stack. -/
theorem C06_flatten_all_preserves_reads (disk : Flat) :
    ∀ (ls : List Layer) (q : Layer), flattenAll ls = some q →
      ∀ a k, readStor disk [q] a k = readStor disk ls a k ∧ readAcct disk [q] a = readAcct disk ls a := by
  intro ls q h
  cases ls with
  | nil => cases h
  | cons l ls =>
    obtain ⟨q', hq, hv⟩ := view_flattenAll disk l ls
    cases hq.symm.trans h
    exact reads_of_view hv

/-- the seeded shape (non-vacuity): an account with a slot is destructed and re-created with another slot in the next
block; after the merge the old slot reads empty, as it does through the unmerged layers. -/
example :
    let p : Layer := { acct := fun a => if a = 1 then some 7 else none, stor := fun a k => if a = 1 ∧ k = 0 then some 5 else none }
    let c : Layer := { destruct := fun a => a == 1, acct := fun a => if a = 1 then some 8 else none, stor := fun a k => if a = 1 ∧ k = 1 then some 6 else none }
    readStor {} [flatten p c] 1 0 = 0 ∧ readStor {} [flatten p c] 1 1 = 6 ∧ readStor {} [c, p] 1 0 = 0 := by
  decide

end QuaiVerif.Snap
