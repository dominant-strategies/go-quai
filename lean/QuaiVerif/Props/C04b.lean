import QuaiVerif.Model.Route
/-
C04 (routing part): on every history of zone / region / prime blocks every emitted ETX is delivered to the zone at
most once, none is lost on the way (it is either delivered or still held at a definite stage), the region-confirmed
ones arrive with the next region-order block and the prime-confirmed ones with the next prime-order block after
the block that rolled them up.
-/
namespace QuaiVerif.Route
open List

/-! ### `sortBySlip` is a stable sort -/

theorem insertBySlip_perm (e : Etx) (l : List Etx) : insertBySlip e l ~ e :: l := by
  induction l with
  | nil => exact Perm.refl _
  | cons x rest ih =>
    unfold insertBySlip
    split
    · exact Perm.refl _
    · exact (Perm.cons x ih).trans (Perm.swap e x rest)

theorem insertBySlip_sorted (e : Etx) (l : List Etx) (h : l.Pairwise (fun a b => b.slip ≤ a.slip)) :
    (insertBySlip e l).Pairwise (fun a b => b.slip ≤ a.slip) := by
  induction l with
  | nil => exact pairwise_singleton _ _
  | cons x rest ih =>
    unfold insertBySlip
    have hx := pairwise_cons.mp h
    split
    · next hlt =>
      refine pairwise_cons.mpr ⟨fun y hy => ?_, h⟩
      rcases mem_cons.mp hy with rfl | hy
      · exact Nat.le_of_lt hlt
      · exact Nat.le_trans (hx.1 y hy) (Nat.le_of_lt hlt)
    · next hge =>
      refine pairwise_cons.mpr ⟨fun y hy => ?_, ih hx.2⟩
      rcases mem_cons.mp ((insertBySlip_perm e rest).mem_iff.mp hy) with rfl | hy
      · exact Nat.le_of_not_lt hge
      · exact hx.1 y hy

/-- within each slip class, inserting into a sorted list is appending: the element goes behind its equals -/
theorem insertBySlip_filter (e : Etx) (l : List Etx) (hs : l.Pairwise (fun a b => b.slip ≤ a.slip)) (k : Nat) :
    (insertBySlip e l).filter (fun x => x.slip == k) = (l ++ [e]).filter (fun x => x.slip == k) := by
  induction l with
  | nil => rfl
  | cons x rest ih =>
    have hx := pairwise_cons.mp hs
    unfold insertBySlip
    split
    · next hlt =>
      rw [filter_append, filter_cons, filter_cons (xs := [])]
      split
      · next h =>
        -- `e` is in class `k`, and everything in `x :: rest` is below `e.slip`
        have hnone : (x :: rest).filter (fun y => y.slip == k) = [] := filter_eq_nil_iff.mpr fun y hy hk => by
          have : y.slip ≤ x.slip := (mem_cons.mp hy).elim (fun e => e ▸ Nat.le_refl _) (hx.1 y)
          rw [beq_iff_eq] at h hk
          omega
        rw [hnone]; rfl
      · rw [filter_nil, append_nil]
    · rw [filter_cons, ih hx.2, cons_append, filter_cons (xs := rest ++ [e])]

/-- what holds of `[]` and is kept by `insertBySlip` holds of `sortBySlip l` (the accumulator is generalised here, once) -/
theorem sortBySlip_induction {P : List Etx → List Etx → Prop} (h0 : P [] [])
    (hs : ∀ l s e, P l s → P (l ++ [e]) (insertBySlip e s)) (l : List Etx) : P l (sortBySlip l) := by
  suffices ∀ l0 s, P l0 s → P (l0 ++ l) (l.foldl (fun acc e => insertBySlip e acc) s) from this [] [] h0
  induction l with
  | nil => intro l0 s h; rwa [append_nil]
  | cons x rest ih => intro l0 s h; rw [append_cons]; exact ih _ _ (hs l0 s x h)

theorem sortBySlip_perm (l : List Etx) : sortBySlip l ~ l :=
  sortBySlip_induction (P := fun l s => s ~ l) (.refl _)
    (fun l s e h => (insertBySlip_perm e s).trans ((h.cons e).trans (perm_append_singleton e l).symm)) l

/-- **C04 (order fixed by prime)**: once the controller runs, the conversions delivered with a prime block come
largest slippage bound first. -/
theorem C04_prime_delivery_sorted (l : List Etx) : (sortBySlip l).Pairwise (fun a b => b.slip ≤ a.slip) :=
  sortBySlip_induction (P := fun _ s => s.Pairwise (fun a b => b.slip ≤ a.slip)) .nil (fun _ s e => insertBySlip_sorted e s) l

/-- **C04 (prime's sort is stable)**: ETXs with the same slippage bound keep the order in which they were rolled up. -/
theorem C04_prime_sort_is_stable (l : List Etx) (k : Nat) :
    (sortBySlip l).filter (fun x => x.slip == k) = l.filter (fun x => x.slip == k) :=
  (sortBySlip_induction
    (P := fun l s => s.Pairwise (fun a b => b.slip ≤ a.slip) ∧ s.filter (fun x => x.slip == k) = l.filter (fun x => x.slip == k))
    ⟨.nil, rfl⟩
    (fun l s e h => ⟨insertBySlip_sorted e s h.1, by rw [insertBySlip_filter e s h.1, filter_append, h.2, filter_append]⟩) l).2

theorem primeInbound_perm (sorted : Bool) (l : List Etx) : (if sorted then sortBySlip l else l) ~ l := by
  cases sorted
  · exact .refl _
  · exact sortBySlip_perm l

theorem count_split (a : Etx) (l : List Etx) : count a (l.filter (fun e => !e.prm)) + count a (l.filter (·.prm)) = count a l := by
  rw [Nat.add_comm, ← count_append]
  exact (filter_append_perm (·.prm) l).count_eq a

theorem std_of_mem_filter {l : List Etx} : ∀ e ∈ l.filter (fun e => !e.prm), e.prm = false :=
  fun e he => by simpa using (mem_filter.mp he).2

theorem prm_of_mem_filter {l : List Etx} : ∀ e ∈ l.filter (·.prm), e.prm = true := fun _ he => (mem_filter.mp he).2

/-- One block: what was delivered so far plus what is on its way, after the block, is what it was before plus what
the block emitted. -/
theorem step_conserves (s : St) (o : Nat) (sorted : Bool) (es : List Etx) :
    (step s o sorted es).1.delivered ++ pending (step s o sorted es).1 ~ s.delivered ++ pending s ++ es := by
  -- a permutation is an equality of counts, and the counts are linear in those of the five stages
  refine perm_iff_count.mpr fun a => ?_
  match o with
  | 0 =>
    simp only [step, pending, count_append, count_nil, (primeInbound_perm sorted _).count_eq, ← count_split a s.zoneSince,
      Nat.add_zero]
    ac_rfl
  | 1 => simp only [step, pending, count_append, count_nil, ← count_split a s.zoneSince, Nat.add_zero]; ac_rfl
  | n + 2 => simp only [step, pending, count_append]; ac_rfl

def emitted (h : List Blk) : List Etx := h.flatMap (·.emits)

/-- **C04 (nothing lost, nothing duplicated)** after any history, what the zone has received together with what is
still held at a definite stage of the route is exactly what the zone's blocks emitted. -/
theorem C04_route_conserves (h : List Blk) (s : St) :
    (run s h).delivered ++ pending (run s h) ~ s.delivered ++ pending s ++ emitted h := by
  induction h generalizing s with
  | nil => rw [emitted, flatMap_nil, append_nil]; exact .refl _
  | cons b rest ih =>
    rw [emitted, flatMap_cons, ← append_assoc]
    exact (ih _).trans ((step_conserves s b.order b.sorted b.emits).append_right _)

/-- **C04 (at most once)** if no ETX is emitted twice, none is delivered twice, and none is both delivered and
still on its way. -/
theorem C04_route_delivers_at_most_once (h : List Blk) (hnd : (emitted h).Nodup) :
    ((run init h).delivered ++ pending (run init h)).Nodup :=
  (C04_route_conserves h init).nodup_iff.mpr hnd

/-- what waits at each stage is of the class that stage handles -/
def Inv (s : St) : Prop := (∀ e ∈ s.stdWait, e.prm = false) ∧ (∀ e ∈ s.primeWait ++ s.primeLast, e.prm = true)

theorem inv_init : Inv init := by simp [Inv, init]

theorem inv_step (s : St) (o : Nat) (b : Bool) (es : List Etx) (h : Inv s) : Inv (step s o b es).1 := by
  obtain ⟨h1, h2⟩ := h
  match o with
  | 0 => exact ⟨forall_mem_append.mpr ⟨std_of_mem_filter, h1⟩, prm_of_mem_filter⟩
  | 1 => exact ⟨nofun, forall_mem_append.mpr ⟨h2, prm_of_mem_filter⟩⟩
  | n + 2 => exact ⟨h1, h2⟩

/-- **C04 (region-confirmed ETXs arrive with the next region-order block)**: that block delivers every standard ETX
rolled up so far and nothing else, and leaves none waiting. -/
theorem C04_region_block_delivers_standard (s : St) (b : Bool) (es : List Etx) (h : Inv s) :
    (∀ e ∈ s.zoneSince ++ s.stdWait, e.prm = false → e ∈ (step s 1 b es).2) ∧
    (∀ e ∈ (step s 1 b es).2, e.prm = false) ∧ (step s 1 b es).1.stdWait = [] := by
  refine ⟨fun e he hp => ?_, forall_mem_append.mpr ⟨std_of_mem_filter, h.1⟩, rfl⟩
  exact (mem_append.mp he).elim (fun hz => mem_append_left _ (mem_filter.mpr ⟨hz, by rw [hp]; rfl⟩)) (mem_append_right _)

/-- **C04 (prime-confirmed ETXs arrive with the next prime-order block)**: that block delivers exactly the coinbases and
conversions rolled up by the region-level blocks before it, and leaves none of them waiting. -/
theorem C04_prime_block_delivers_prime (s : St) (b : Bool) (es : List Etx) (h : Inv s) :
    (step s 0 b es).2 ~ s.primeWait ++ s.primeLast ∧ (∀ e ∈ (step s 0 b es).2, e.prm = true) ∧
    (step s 0 b es).1.primeWait = [] := by
  have hp : (step s 0 b es).2 ~ s.primeWait ++ s.primeLast := primeInbound_perm b _
  exact ⟨hp, fun e he => h.2 e (hp.mem_iff.mp he), rfl⟩

example : (step ⟨[⟨"a", true, 0⟩, ⟨"b", false, 0⟩], [], [⟨"c", true, 5⟩], [⟨"d", true, 9⟩], []⟩ 0 true [⟨"e", true, 0⟩]).2 =
    [⟨"d", true, 9⟩, ⟨"c", true, 5⟩] := by decide

end QuaiVerif.Route
