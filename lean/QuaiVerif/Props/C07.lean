import QuaiVerif.Model.Validate
import QuaiVerif.Gen.Validator
import QuaiVerif.Gen.Mirror
/-
C07: own blocks validate; any deviation from re-execution is rejected; a rejected block leaves no trace.
The decision logic is proved for every execution function; the tie to the code is (T1) the regenerated table of
header fields the validating functions compare, which must cover every declared result, and (T2/T3) area c07:
every block the node's worker assembles must be accepted by the node, every single-component mutant of such a
block (re-sealed, with body roots recomputed so that only re-execution can tell) must be rejected with the chain
state unchanged, and neutral re-sealings must be accepted.
-/
namespace QuaiVerif.Validate

variable {S B R : Type} [DecidableEq R]

/-- Acceptance is *exactly* agreement with re-execution. -/
theorem C07_accept_iff (exec : S → B → Option (S × R)) (s : S) (b : Block B R) :
    validate exec s b = true ↔ ∃ s', exec s b.body = some (s', b.declared) := by
  unfold validate
  cases exec s b.body with
  | none => simp
  | some p => simp [Prod.ext_iff]

/-- Every block the worker assembles passes the node's own validation. -/
theorem C07_own_block_validates (exec : S → B → Option (S × R)) (s : S) (body : B) (b : Block B R)
    (h : assemble exec s body = some b) : validate exec s b = true := by
  obtain ⟨p, he, rfl⟩ := Option.map_eq_some_iff.1 h
  exact (C07_accept_iff exec s _).2 ⟨p.1, he⟩

/-- ... and appending it succeeds and yields exactly the state the worker computed. -/
theorem C07_own_block_appends (exec : S → B → Option (S × R)) (s s' : S) (r : R) (body : B)
    (he : exec s body = some (s', r)) : append exec s { body := body, declared := r } = (s', true) := by
  simp [append, he]

/-- A block whose declared results differ in any component from what re-execution yields is rejected. -/
theorem C07_wrong_declared_rejected (exec : S → B → Option (S × R)) (s s' : S) (r : R) (b : Block B R)
    (he : exec s b.body = some (s', r)) (hd : b.declared ≠ r) : validate exec s b = false := by
  simp [validate, he, Ne.symm hd]

/-- A block whose body was altered (transaction changed, dropped, reordered, added) while the declared results were
kept is rejected unless the altered body happens to re-execute to exactly the declared results. -/
theorem C07_altered_body_rejected (exec : S → B → Option (S × R)) (s : S) (body' : B) (declared : R)
    (h : ∀ s', exec s body' ≠ some (s', declared)) : validate exec s { body := body', declared := declared } = false :=
  Bool.eq_false_iff.2 fun hv => ((C07_accept_iff exec s _).1 hv).elim h

/-- A rejected block leaves the chain state untouched. -/
theorem C07_rejected_leaves_no_trace (exec : S → B → Option (S × R)) (s : S) (b : Block B R)
    (h : validate exec s b = false) : append exec s b = (s, false) := by
  unfold validate at h; unfold append
  cases he : exec s b.body with
  | none => rfl
  | some p =>
    obtain ⟨s', r⟩ := p
    rw [he] at h
    exact if_neg (of_decide_eq_false h)

/-- append and validate agree: the accepting and the rejecting case of `append` are all there is. -/
theorem C07_append_iff_validate (exec : S → B → Option (S × R)) (s : S) (b : Block B R) :
    (append exec s b).2 = validate exec s b := by
  cases hv : validate exec s b
  · rw [C07_rejected_leaves_no_trace exec s b hv]
  · obtain ⟨s', he⟩ := (C07_accept_iff exec s b).1 hv
    exact congrArg Prod.snd (C07_own_block_appends exec s s' b.declared b.body he)

/-- The results a zone block declares in its header (core/types/block.go Header, filled by the worker in
commitTransactions / FinalizeAssemble / Finalize). -/
def declaredResults : List String :=
  ["GasUsed", "StateUsed", "ReceiptHash", "EVMRoot", "QuaiStateSize", "UTXORoot", "EtxSetRoot", "OutboundEtxHash",
   "UncledEntropy", "TxHash", "UncleHash", "AvgTxFees", "TotalFees"]

/-- Every declared result is compared with a recomputed value by ValidateBody, ValidateState or Process, in an
`if` that rejects the block (regenerated from the current source on every run). -/
theorem C07_every_declared_result_is_compared :
    declaredResults.all (fun f =>
      Gen.validateStateCompares.contains f || Gen.validateBodyCompares.contains f || Gen.processCompares.contains f) = true := by
  decide +kernel

/-- Non-vacuity: a concrete execution function with an accepted own block and a rejected mutant. -/
example : validate (fun (s : Nat) (b : List Nat) => if b.all (· ≤ s) then some (s - b.sum, b.length) else none) 10
    { body := [1, 2], declared := 2 } = true ∧
  validate (fun (s : Nat) (b : List Nat) => if b.all (· ≤ s) then some (s - b.sum, b.length) else none) 10
    { body := [1, 2], declared := 3 } = false := by decide

/-- **C07 (T1: the assembler locks what the validator locks).** For coinbase ETXs paid into a lockup contract the block
assembler (worker.go commitTransaction) and the validator (state_processor.go Process) call `vm.AddNewLock` - and credit
balances - with the same arguments, computed from the same expressions (names that differ only through the surrounding
code normalised by the extractor): a different amount, unlock height, epoch or delegate on one side would make the node
reject its own block. -/
theorem C07_assembler_and_validator_lock_the_same : Gen.mirrorWorker = Gen.mirrorProcessor := by rfl

theorem C07_mirror_nonempty : Gen.mirrorWorker.length ≥ 2 := by decide

end QuaiVerif.Validate
