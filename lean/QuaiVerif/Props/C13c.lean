import QuaiVerif.Props.C13b
/- C13 (payout to accounts that may not exist yet): among the payouts of one block the creation fee is withheld at most
once, from the first payout that can cover it (smaller ones before it are dropped); nothing is credited twice.  An account
that ends a block empty is removed again (`settle`) and pays the fee anew when it is next paid. -/
namespace QuaiVerif.Payout

theorem credit_live (fee x : Nat) {a : Acct} (h : a.live = true) : credit fee a x = ⟨true, a.bal + x⟩ := by
  rw [credit, if_pos h, ← h]

theorem creditAll_live (fee : Nat) (a : Acct) (amts : List Nat) (h : a.live = true) :
    creditAll fee a amts = { live := true, bal := a.bal + amts.sum } := by
  induction amts generalizing a with
  | nil => rw [← h]; rfl
  | cons x rest ih =>
    rw [creditAll, List.foldl_cons, credit_live fee x h, List.sum_cons, ← Nat.add_assoc]
    exact ih _ rfl

/-- An account that exists is credited every payout in full. -/
theorem C13_existing_account_credited_in_full (fee : Nat) (a : Acct) (amts : List Nat) (h : a.live = true) :
    (creditAll fee a amts).bal = a.bal + amts.sum ∧ (creditAll fee a amts).live = true := by
  rw [creditAll_live fee a amts h]; exact ⟨rfl, rfl⟩

/-- An account that does not exist: payouts below the fee are dropped until one can cover the fee; that one is
credited less the fee - once - and every later payout of the block is credited in full. -/
theorem C13_new_account_pays_creation_fee_once (fee : Nat) (b : Nat) (amts : List Nat) :
    creditAll fee ⟨false, b⟩ amts =
      match amts.dropWhile (· < fee) with
      | [] => ⟨false, b⟩
      | x :: rest => ⟨true, b + (x - fee) + rest.sum⟩ := by
  induction amts with
  | nil => rfl
  | cons x rest ih =>
    rw [creditAll, List.foldl_cons, List.dropWhile_cons, credit, if_neg Bool.false_ne_true]
    by_cases hx : x < fee
    · rw [if_neg (Nat.not_le.2 hx), if_pos (decide_eq_true hx)]
      exact ih
    · rw [if_pos (Nat.not_lt.1 hx), if_neg (by simpa using hx)]
      exact creditAll_live fee _ rest rfl

theorem credit_bal_le (fee : Nat) (a : Acct) (x : Nat) : (credit fee a x).bal ≤ a.bal + x := by
  unfold credit
  split
  · exact Nat.le_refl _
  · split
    · exact Nat.add_le_add_left (Nat.sub_le _ _) _
    · exact Nat.le_add_right _ _

/-- Whatever the account and the payouts: never more than the payouts is credited. -/
theorem C13_credited_never_exceeds_payouts (fee : Nat) (a : Acct) (amts : List Nat) :
    (creditAll fee a amts).bal ≤ a.bal + amts.sum := by
  induction amts generalizing a with
  | nil => exact Nat.le_refl _
  | cons x rest ih =>
    rw [List.sum_cons, ← Nat.add_assoc]
    exact Nat.le_trans (ih _) (Nat.add_le_add_right (credit_bal_le fee a x) _)

theorem C13_shortfall_at_most_one_fee (fee : Nat) (b : Nat) (amts : List Nat) (hall : ∀ x ∈ amts, fee ≤ x) :
    b + amts.sum ≤ (creditAll fee ⟨false, b⟩ amts).bal + fee := by
  rw [C13_new_account_pays_creation_fee_once]
  cases amts with
  | nil => exact Nat.le_add_right _ _
  | cons x rest =>
    have hx : fee ≤ x := hall x (.head _)
    rw [List.dropWhile_cons, if_neg (by simpa using hx), List.sum_cons]
    show b + (x + rest.sum) ≤ b + (x - fee) + rest.sum + fee
    omega

/-- What a block pays out to `a`, depth by depth, is what the schedule of the first part credits at that height. -/
theorem unlocksAt_sum (depths : List Nat) (hnd : depths.Nodup) (rs : List Reward) (a : String) (h : Nat) :
    (unlocksAt depths rs a h).sum = creditedAt depths rs a h := by
  unfold unlocksAt creditedAt
  induction depths with
  | nil => exact (sum_filter_none _ fun r _ => by rw [List.contains_nil, Bool.and_false, Bool.false_and]).symm
  | cons d ds ih =>
    obtain ⟨hd, hds⟩ := List.nodup_cons.1 hnd
    rw [List.flatMap_cons, List.sum_append_nat, ih hds]
    refine (sum_filter_split _ rs (fun r => ?_) fun r hp hq => ?_).symm
    · rw [List.contains_cons, Bool.and_or_distrib_left, Bool.and_or_distrib_right]
    · simp only [Bool.and_eq_true, beq_iff_eq, List.contains_eq_mem, decide_eq_true_eq] at hp hq
      exact hd (hp.1.2 ▸ hq.1.2)

theorem settle_of_pos {a : Acct} (h : 0 < a.bal) : settle a = a :=
  if_neg (Nat.ne_of_gt h)

/-- An account that exists from the start with a balance: the sequential model pays exactly the schedule of the first
part, so every reward is credited exactly once, at its unlock height. -/
theorem C13_live_account_follows_schedule (depths : List Nat) (hnd : depths.Nodup) (fee : Nat → Nat) (rs : List Reward)
    (a : String) (b : Nat) (hb : 0 < b) (h : Nat) :
    acctUpTo depths fee rs a ⟨true, b⟩ h = ⟨true, b + matured depths rs a h⟩ := by
  induction h with
  | zero => rw [matured_zero]; rfl
  | succ h ih =>
    rw [acctUpTo, ih, creditAll_live _ _ _ rfl, unlocksAt_sum depths hnd, matured_succ, Nat.add_assoc]
    exact settle_of_pos (Nat.lt_of_lt_of_le hb (Nat.le_add_right _ _))

example : acctUpTo [3, 5] (fun _ => 4) [⟨"n", 3, 2, 3⟩, ⟨"n", 10, 2, 3⟩, ⟨"n", 7, 2, 3⟩, ⟨"n", 4, 4, 3⟩] "n" ⟨false, 0⟩ 5 = ⟨true, 13⟩ ∧
          acctUpTo [3, 5] (fun _ => 4) [⟨"n", 4, 2, 3⟩, ⟨"n", 9, 3, 3⟩] "n" ⟨false, 0⟩ 5 = ⟨false, 0⟩ ∧
          acctUpTo [3, 5] (fun _ => 4) [⟨"n", 4, 2, 3⟩, ⟨"n", 9, 3, 3⟩] "n" ⟨false, 0⟩ 6 = ⟨true, 5⟩ := by decide

end QuaiVerif.Payout
