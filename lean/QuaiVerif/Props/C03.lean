import QuaiVerif.Model.Sign
import QuaiVerif.Gen.TxFields
import QuaiVerif.Lemmas.List
/-
C03 — Only the key holder can authorise a transaction; no replay across chains.
Model: Model/Sign.lean.  Tie: T1 Gen/TxFields.lean (signing vs. full encoding field sets, regenerated
from transaction.go) and T2 area `sign` (real keys, real Sender on every single-field mutation,
every chain-id pair, boundary signature values; Qi aggregate signatures through ProcessQiTx in C01).
Cryptographic idealisation (`hSig`, `hH`) appears only as explicit hypotheses.
-/
namespace QuaiVerif.Sign

variable {α D : Type}

/-- **C03 (chain id)** a transaction whose chain id differs from the signer's is never attributed. -/
theorem C03_chain_mismatch_rejected (H : Bytes → D) (recover : D → Nat × Nat × Nat → Option α)
    (c : Nat) (tx : Tx) (h : tx.chainId ≠ c) : senderV1 H recover c tx = .errChainId := by
  simp [senderV1, h]

theorem validSigValues_iff (v r s : Nat) :
    validSigValues v r s = true ↔ r ≠ 0 ∧ s ≠ 0 ∧ s ≤ halfN ∧ r < secpN ∧ s < secpN ∧ (v = 0 ∨ v = 1) := by
  simp [validSigValues, and_assoc]

/-- **C03 (signature value ranges)** zero, out-of-range and high-S values and v ∉ {0,1} are rejected. -/
theorem C03_bad_signature_values_rejected (v r s : Nat)
    (h : r = 0 ∨ s = 0 ∨ r ≥ secpN ∨ s ≥ secpN ∨ s > halfN ∨ (v ≠ 0 ∧ v ≠ 1)) : validSigValues v r s = false := by
  rw [Bool.eq_false_iff, Ne, validSigValues_iff]
  omega

theorem C03_sender_implies_valid (H : Bytes → D) (recover : D → Nat × Nat × Nat → Option α)
    (c : Nat) (tx : Tx) (a : α) (h : senderV1 H recover c tx = .sender a) :
    tx.chainId = c ∧ validSigValues tx.v tx.r tx.s = true ∧ recover (H tx.payload) (tx.r, tx.s, tx.v) = some a := by
  unfold senderV1 at h
  by_cases h1 : tx.chainId ≠ c
  · rw [if_pos h1] at h; cases h
  by_cases h2 : tx.v + 27 ≥ 256
  · rw [if_neg h1, if_pos h2] at h; cases h
  by_cases h3 : (!validSigValues tx.v tx.r tx.s) = true
  · rw [if_neg h1, if_neg h2, if_pos h3] at h; cases h
  rw [if_neg h1, if_neg h2, if_neg h3] at h
  split at h
  · next b hr => cases h; exact ⟨Decidable.not_not.1 h1, by simpa using h3, hr⟩
  · cases h

/-- **C03 (only the key holder)** Under the idealisations — `hH`: the payload hash is injective;
`hSig`: one signature recovers the same signer for at most one digest (no one but the key holder can
make a signature that verifies for another digest) — two transactions attributed to the same sender
with the same signature have the same signed payload: changing any signed field (type, chain id,
nonce, gas, price, recipient, value, data, access list — see `C03_signing_covers_payload`) yields a
different sender or an error, never the original sender. -/
theorem C03_changed_payload_changes_sender (H : Bytes → D) (recover : D → Nat × Nat × Nat → Option α)
    (hH : Function.Injective H)
    (hSig : ∀ d d' sig a, recover d sig = some a → recover d' sig = some a → d = d')
    (c c' : Nat) (tx tx' : Tx) (a : α)
    (hs : tx.r = tx'.r ∧ tx.s = tx'.s ∧ tx.v = tx'.v)
    (h1 : senderV1 H recover c tx = .sender a) (h2 : senderV1 H recover c' tx' = .sender a) :
    tx.payload = tx'.payload := by
  obtain ⟨_, _, r1⟩ := C03_sender_implies_valid H recover c tx a h1
  obtain ⟨_, _, r2⟩ := C03_sender_implies_valid H recover c' tx' a h2
  rw [← hs.1, ← hs.2.1, ← hs.2.2] at r2
  exact hH (hSig _ _ _ _ r1 r2)

section cache
variable (H : Bytes → D) (recover : D → Nat × Nat × Nat → Option α) (tx : Tx)

/-- The invariant of the cache: it holds only answers of the uncached function. -/
def CacheOK (cache : Option (Nat × α)) : Prop :=
  ∀ c a, cache = some (c, a) → senderV1 H recover c tx = .sender a

theorem senderCached_spec {cache : Option (Nat × α)} (hc : CacheOK H recover tx cache) (c : Nat) :
    (senderCached H recover cache c tx).1 = senderV1 H recover c tx ∧
      CacheOK H recover tx (senderCached H recover cache c tx).2 := by
  -- a miss answers as `senderV1` does and stores the answer if it names a sender
  have miss : ∀ r, r = (match senderV1 H recover c tx with
      | .sender b => (Verdict.sender b, some (c, b))
      | v => (v, cache)) → r.1 = senderV1 H recover c tx ∧ CacheOK H recover tx r.2 := by
    rintro _ rfl
    split
    · next b hv => exact ⟨hv.symm, fun c' a e => by cases e; exact hv⟩
    · exact ⟨rfl, hc⟩
  unfold senderCached
  split
  · next c0 a0 =>
    split
    · next e => exact ⟨(hc c a0 (e ▸ rfl)).symm, hc⟩
    · exact miss _ rfl
  · exact miss _ rfl

end cache

/-- **C03 (sender cache)** the cache never changes a verdict: whatever sequence of signers asks, each
answer equals the uncached one, so a sender cached for one chain id is never returned for another. -/
theorem C03_cache_transparent (H : Bytes → D) (recover : D → Nat × Nat × Nat → Option α) (tx : Tx)
    (signers : List Nat) :
    ∀ cache : Option (Nat × α),
      (∀ c a, cache = some (c, a) → senderV1 H recover c tx = .sender a) →
      (signers.foldl (fun (st : List (Verdict α) × Option (Nat × α)) c =>
          (st.1 ++ [(senderCached H recover st.2 c tx).1], (senderCached H recover st.2 c tx).2)) ([], cache)).1 = signers.map (fun c => senderV1 H recover c tx) :=
  foldl_answers (fun cache c => senderCached H recover cache c tx) (fun c => senderV1 H recover c tx)
    (CacheOK H recover tx) (fun _ c h => senderCached_spec H recover tx h c) signers []

/-! ### T1: what the signature covers in the current source -/

def unsignedByDesign : List String := ["V", "R", "S", "Signature", "ParentHash", "MixHash", "WorkNonce"]

/-- **C03 (T1)** every field of the full encoding of a Quai / Qi transaction, other than the
signature itself and the work fields, is in the signing encoding; and the signing encoding of a Quai
(resp. Qi) transaction contains every field of the payload the property names. -/
theorem C03_signing_covers_payload :
    (["QuaiTxType", "QiTxType"].all fun ty =>
      ((Gen.txEncodeFields.lookup ty).getD []).all fun f =>
        unsignedByDesign.contains f || ((Gen.txSigningFields.lookup ty).getD []).contains f) = true ∧
    (["Type", "ChainId", "Nonce", "Gas", "GasPrice", "To", "Value", "Data", "AccessList"].all fun f =>
      ((Gen.txSigningFields.lookup "QuaiTxType").getD []).contains f) = true ∧
    (["Type", "ChainId", "TxIns", "TxOuts", "Data"].all fun f =>
      ((Gen.txSigningFields.lookup "QiTxType").getD []).contains f) = true := by
  decide +kernel

/-! ### Non-vacuity -/
example : validSigValues 1 5 7 = true := by decide
example : validSigValues 0 secpN 7 = false := by decide
example : senderV1 (fun b => b) (fun _ _ => some 7) 9000 { chainId := 9000, payload := [1], v := 0, r := 5, s := 7 } = .sender 7 := by
  decide

end QuaiVerif.Sign
