import QuaiVerif.Model.Ledger
/-
C06 (commitment part): after every block the header's UTXO commitment describes exactly the database content
and the stored set size is the number of entries - for every history of blocks whose bookkeeping is well formed
(each created entry is new, each spent / trimmed entry is present when it is removed).  The accumulator itself is
insensitive to the order in which a block's entries are added and removed, which is what makes the concurrent
per-denomination trimming goroutines and any tx order-of-bookkeeping harmless.

The correspondence check (area c06) feeds the model the real blocks' own bookkeeping and compares the predicted
set size / consistency with the header and an independent scan of the database; it also reports `wf`, i.e.
whether the hypothesis of the theorem held for the real block.
-/
namespace QuaiVerif.Ledger

def Inv (l : Ledger) : Prop := l.db.Nodup ∧ Consistent l ∧ l.size = l.db.length

theorem inv_create {l : Ledger} {x : Id} (h : Inv l) (hx : x ∉ l.db) : Inv (applyOp l (.create x)) := by
  obtain ⟨hnd, hc, hs⟩ := h
  refine ⟨?_, ?_, ?_⟩
  · simp [applyOp, hx, hnd]
  · intro y
    simp only [applyOp, hx, bump]
    by_cases hy : y = x
    · subst hy; simp [hc y, hx]
    · simp [hy, hc y]
  · simp [applyOp, hx, hs]

theorem inv_remove {l : Ledger} {x : Id} (h : Inv l) (hx : x ∈ l.db) :
    Inv { db := l.db.erase x, mult := bump l.mult x (-1), size := l.size - 1 } := by
  obtain ⟨hnd, hc, hs⟩ := h
  refine ⟨?_, ?_, ?_⟩
  · exact hnd.erase x
  · intro y
    simp only [bump]
    by_cases hy : y = x
    · subst hy; simp [hc y, hx, hnd.mem_erase_iff]
    · simp [hy, hc y]
  · rw [List.length_erase_of_mem hx, hs, Int.natCast_sub (List.length_pos_of_mem hx)]; rfl

theorem inv_step {l : Ledger} {o : Op} (h : Inv l) (hw : opWF l o = true) : Inv (applyOp l o) := by
  cases o with
  | create x => exact inv_create h (by simpa [opWF] using hw)
  | spend x => exact inv_remove h (by simpa [opWF] using hw)
  | trim x => exact inv_remove h (by simpa [opWF] using hw)

/-- Commitment = content and size = number of entries after every well-formed history. -/
theorem C06_commitment_is_content (l : Ledger) (ops : List Op) (h : Inv l) (hw : opsWF l ops = true) :
    Consistent (applyOps l ops) ∧ (applyOps l ops).size = (applyOps l ops).db.length := by
  suffices Inv (applyOps l ops) from this.2
  induction ops generalizing l with
  | nil => exact h
  | cons o os ih =>
    rw [opsWF, Bool.and_eq_true] at hw
    exact ih (applyOp l o) (inv_step h hw.1) hw.2

/-- The empty ledger (genesis) satisfies the invariant, so the theorem applies to whole chains. -/
theorem C06_genesis_inv : Inv ({} : Ledger) := ⟨List.nodup_nil, fun _ => rfl, rfl⟩

/-- Blocks compose: a chain of well-formed blocks is a well-formed history. -/
theorem opsWF_append (l : Ledger) (a b : List Op) :
    opsWF l (a ++ b) = (opsWF l a && opsWF (applyOps l a) b) := by
  induction a generalizing l with
  | nil => simp [opsWF, applyOps]
  | cons o os ih => simp [opsWF, applyOps, ih, Bool.and_assoc]

theorem C06_chain_of_blocks (blocks : List (List Op)) (hw : opsWF {} blocks.flatten = true) :
    Consistent (applyOps {} blocks.flatten) ∧
      (applyOps {} blocks.flatten).size = (applyOps {} blocks.flatten).db.length :=
  C06_commitment_is_content {} _ C06_genesis_inv hw

theorem bump_apply (m : Id → Int) (x : Id) (d : Int) (y : Id) : bump m x d y = m y + if y = x then d else 0 := by
  rw [bump]; split
  · rfl
  · exact (Int.add_zero _).symm

theorem bump_comm (m : Id → Int) (x y : Id) (a b : Int) : bump (bump m x a) y b = bump (bump m y b) x a := by
  funext z; rw [bump_apply, bump_apply, bump_apply, bump_apply, Int.add_right_comm]

/-- The entry an op adds to or removes from the commitment, and by how much it changes the counters. -/
def Op.delta : Op → Id × Int
  | .create x => (x, 1)
  | .spend x => (x, -1)
  | .trim x => (x, -1)

def com (l : Ledger) : (Id → Int) × Int := (l.mult, l.size)

/-- The commitment is a group accumulator: an op adds its delta, whatever the database holds. -/
def applyCom (c : (Id → Int) × Int) (o : Op) : (Id → Int) × Int := (bump c.1 o.delta.1 o.delta.2, c.2 + o.delta.2)

theorem com_applyOp (l : Ledger) (o : Op) : applyCom (com l) o = com (applyOp l o) := by
  cases o <;> rfl

theorem applyCom_comm (c : (Id → Int) × Int) (a b : Op) : applyCom (applyCom c a) b = applyCom (applyCom c b) a := by
  simp only [applyCom, bump_comm, Int.add_right_comm]

/-- However a block's creations, spends and trims are interleaved (transaction order of bookkeeping, scheduling
of the trimming goroutines), the resulting commitment and set size are the same. -/
theorem C06_commitment_order_independent (l : Ledger) (ops₁ ops₂ : List Op) (p : ops₁.Perm ops₂) :
    (applyOps l ops₁).mult = (applyOps l ops₂).mult ∧ (applyOps l ops₁).size = (applyOps l ops₂).size := by
  have h : com (applyOps l ops₁) = com (applyOps l ops₂) := by
    rw [applyOps, applyOps, ← List.foldl_hom com com_applyOp, ← List.foldl_hom com com_applyOp]
    exact p.foldl_eq' (fun x _ y _ c => applyCom_comm c x y) _
  exact ⟨congrArg Prod.fst h, congrArg Prod.snd h⟩

def oneEntry : Ledger := applyOp {} (.create "a")

/-- A block that spends an output through a transaction *and* trims it (TrimBlock reads the database, not the
block's pending batch) removes it twice from the commitment: the header no longer describes the database, and
the set size is one too small.  This is exactly the history on which go-quai deviates (known finding). -/
theorem C06_counterexample_spent_and_trimmed :
    opsWF oneEntry [.spend "a", .trim "a"] = false ∧
    (applyOps oneEntry [.spend "a", .trim "a"]).db = [] ∧
    (applyOps oneEntry [.spend "a", .trim "a"]).mult "a" = -1 ∧
    (applyOps oneEntry [.spend "a", .trim "a"]).size = -1 := by
  refine ⟨by decide, by decide, ?_, ?_⟩ <;> simp [applyOps, applyOp, oneEntry, bump]

/-- Non-vacuity: a history with creation, same-block create-and-spend and trimming meets the hypotheses. -/
example : opsWF {} [.create "a", .create "b", .spend "b", .create "c", .trim "a"] = true := by decide

end QuaiVerif.Ledger
