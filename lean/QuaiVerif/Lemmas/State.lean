import QuaiVerif.Model.State
/- The journal model (C12): function update (`upd`, `upd2`) overwritten with the old value, and `revertTo` by its equations. -/
namespace QuaiVerif.State

theorem upd_same {β : Type} (f : Nat → β) (a : Nat) (v : β) : upd f a v a = v := if_pos rfl
theorem upd_upd {β : Type} (f : Nat → β) (a : Nat) (v w : β) : upd (upd f a v) a w = upd f a w := by
  funext x; simp only [upd]; split <;> rfl
theorem upd_eq_self {β : Type} (f : Nat → β) (a : Nat) : upd f a (f a) = f := by
  funext x; by_cases h : x = a <;> simp [upd, h]
theorem upd_upd_self {β : Type} (f : Nat → β) (a : Nat) (v : β) : upd (upd f a v) a (f a) = f := by
  rw [upd_upd, upd_eq_self]
theorem upd2_upd2_self {β : Type} (f : Nat → Nat → β) (a k : Nat) (v : β) :
    upd2 (upd2 f a k v) a k (f a k) = f := by
  funext x y; by_cases h : x = a ∧ y = k <;> simp [upd2, h]

theorem undo_journal (t : St) (e : Entry) : (undo t e).journal = t.journal := by
  cases e with
  | suicide a pf pb ps => exact (apply_ite St.journal _ _ _).trans (ite_self _)
  | _ => rfl

theorem revertTo_stop {n : Nat} {s : St} (h : s.journal.length ≤ n) : revertTo n s = s := by
  unfold revertTo
  split
  · rfl
  · next e rest hj => rw [hj] at h; exact if_pos h

theorem revertTo_cons {n : Nat} {s : St} {e : Entry} {rest : List Entry} (hj : s.journal = e :: rest)
    (h : n ≤ rest.length) : revertTo n s = revertTo n (undo { s with journal := rest } e) := by
  rw [revertTo]
  split
  · next h0 => rw [hj] at h0; cases h0
  · next e' rest' hj' =>
    rw [hj] at hj'
    cases hj'
    exact if_neg (by omega)

theorem revertTo_journal_length (n : Nat) (s : St) (h : n ≤ s.journal.length) :
    (revertTo n s).journal.length = n := by
  fun_induction revertTo n s with
  | case1 s hj => rw [hj] at h ⊢; exact (Nat.le_zero.mp h).symm
  | case2 s e rest hj hle => rw [hj] at h ⊢; exact Nat.le_antisymm hle h
  | case3 s e rest hj hle ih => exact ih (by rw [undo_journal]; exact Nat.le_of_not_lt hle)

theorem revertTo_trans (n m : Nat) (s : St) (hnm : n ≤ m) :
    revertTo n (revertTo m s) = revertTo n s := by
  fun_induction revertTo m s with
  | case1 s hj => rfl
  | case2 s e rest hj hle => rfl
  | case3 s e rest hj hle ih => rw [ih, ← revertTo_cons hj (by omega)]

theorem runList_append (vr : Variant) (ps qs : List Prog) (s : St) :
    runList vr s (ps ++ qs) = runList vr (runList vr s ps) qs := by
  induction ps generalizing s with
  | nil => rfl
  | cons p ps ih => exact ih _

end QuaiVerif.State
