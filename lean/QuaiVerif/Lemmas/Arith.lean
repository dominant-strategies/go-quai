/- Arithmetic and order facts that several formulas share. -/
namespace QuaiVerif

/-- scaling by a ratio of at most one does not increase (also for `b = 0`, where the quotient is 0) -/
theorem mul_div_le_of_le (x : Nat) {a b : Nat} (h : a ≤ b) : x * a / b ≤ x :=
  Nat.div_le_of_le_mul (Nat.mul_comm b x ▸ Nat.mul_le_mul_left x h)

/-! Clamping is monotone: stated over the core order classes, for the difficulty (`Int`) and the flow amount (`Nat`) alike;
core has neither for either type. -/

open Std in
theorem max_le_max_left {α : Type} [LE α] [Max α] [IsPreorder α] [LawfulOrderSup α] (c : α) {a b : α}
    (h : a ≤ b) : max c a ≤ max c b :=
  max_le_iff.mpr ⟨left_le_max, le_trans h right_le_max⟩

open Std in
theorem min_le_min_right {α : Type} [LE α] [Min α] [IsPreorder α] [LawfulOrderInf α] (c : α) {a b : α}
    (h : a ≤ b) : min a c ≤ min b c :=
  le_min_iff.mpr ⟨le_trans min_le_left h, min_le_right⟩

end QuaiVerif
