import QuaiVerif.Model.Crash
import QuaiVerif.Gen.Rollback
import QuaiVerif.Gen.AppendWrites
/-
C11: a crash at any point leaves a database the node can restart and continue from.  Over the write-schedule
model: if every batch that moves the flat ledger also moves the head pointer, then after *every prefix* of the
schedule of appending any number of blocks and of any reorganisation the database is consistent (ledger belongs to
the recorded head, head state present) and the interrupted append can be completed.  T1 regenerates, from
BodyDb.Append and the rollback loop of SetCurrentHeader, whether the head pointer is written inside those batches;
area c11 records the real write steps of real appends / reorgs, classifies them in the model's terms and restarts a
real node on every prefix.
-/
namespace QuaiVerif.Crash

theorem consistent_step {d : Db} {s : Step} {rest : List Step} (h : Consistent d) (ok : SchedOK d (s :: rest)) :
    Consistent (applyStep d s) := by
  cases s with
  | other | canonical => exact h
  | trie n => exact ⟨h.1, List.mem_cons_of_mem _ h.2⟩
  | ledger n wh => obtain ⟨⟨rfl, hn⟩, -⟩ := ok; exact ⟨rfl, hn⟩
  | head n => exact ok.1

/-- Every prefix of a safe schedule leaves a consistent database: every crash point. -/
theorem C11_every_crash_point_consistent (d : Db) (sched : List Step) (h : Consistent d) (ok : SchedOK d sched)
    (i : Nat) : Consistent (applySteps d (sched.take i)) := by
  induction i generalizing d sched with
  | zero => exact h
  | succ i ih =>
    cases sched with
    | nil => exact h
    | cons s rest => exact ih (applyStep d s) rest (consistent_step h ok) ok.2

theorem consistent_applySteps (d : Db) (sched : List Step) (h : Consistent d) (ok : SchedOK d sched) :
    Consistent (applySteps d sched) := by
  simpa using C11_every_crash_point_consistent d sched h ok sched.length

theorem schedOK_append {d : Db} {a b : List Step} (ha : SchedOK d a) (hb : SchedOK (applySteps d a) b) :
    SchedOK d (a ++ b) := by
  induction a generalizing d with
  | nil => exact hb
  | cons s rest ih => exact ⟨ha.1, ih ha.2 hb⟩

theorem appendSched_ok (d : Db) (n : Nat) : SchedOK d (appendSched true n) := by
  simp [appendSched, SchedOK, applyStep]

theorem appendSched_end (d : Db) (n : Nat) :
    (applySteps d (appendSched true n)).ledger = n ∧ (applySteps d (appendSched true n)).head = n := by
  simp [appendSched, applySteps, applyStep]

theorem appendMany_ok (d : Db) (ns : List Nat) : SchedOK d (ns.map (appendSched true)).flatten := by
  induction ns generalizing d with
  | nil => trivial
  | cons n rest ih => exact schedOK_append (appendSched_ok d n) (ih _)

theorem C11_append_chain_crash_safe (d : Db) (ns : List Nat) (h : Consistent d) (i : Nat) :
    Consistent (applySteps d ((ns.map (appendSched true)).flatten.take i)) :=
  C11_every_crash_point_consistent d _ h (appendMany_ok d ns) i

theorem tries_mono (d : Db) (l : List Step) {n : Nat} (h : n ∈ d.tries) : n ∈ (applySteps d l).tries :=
  List.foldlRecOn (motive := fun d => n ∈ d.tries) l applyStep h fun d h s _ => by
    cases s with
    | trie m => exact List.mem_cons_of_mem m h
    | _ => exact h

theorem rollbackMany_ok (d : Db) (down : List Nat) (h : ∀ p ∈ down, p ∈ d.tries) :
    SchedOK d (down.map (rollbackSched true)).flatten := by
  induction down generalizing d with
  | nil => trivial
  | cons p rest ih =>
    show SchedOK d (.ledger p true :: _)
    -- the batch leaves `tries` as it is, so `h` still speaks of the state `ih` starts from
    exact ⟨⟨rfl, h p (.head _)⟩, ih _ fun q hq => h q (.tail _ hq)⟩

/-- A crash at any point of any reorganisation (roll back through `down`, append `up`) leaves a consistent database. -/
theorem C11_reorg_crash_safe (d : Db) (down up : List Nat) (h : Consistent d) (hd : ∀ p ∈ down, p ∈ d.tries) (i : Nat) :
    Consistent (applySteps d ((reorgSched true true down up).take i)) :=
  C11_every_crash_point_consistent d _ h (schedOK_append (rollbackMany_ok d down hd) (appendMany_ok _ up)) i

/-- The interrupted append can always be completed: at every crash point of appending block `n` onto `p`, the ledger
is either still the parent's (apply the block) or already the block's (nothing to do). -/
theorem C11_interrupted_append_resumes (p n : Nat) (tries : List Nat) (i : Nat) :
    canResumeAppend (applySteps { ledger := p, head := p, tries := tries } ((appendSched true n).take i)) p n = true := by
  rcases i with _|_|_|_|_|_|i <;> simp [appendSched, applySteps, applyStep, canResumeAppend]

/-- Without the head pointer in the block's batch there is a crash point at which the ledger has moved and the
head has not: the restarted node reports the parent as head over the child's ledger and cannot re-apply the block.
(This was the behaviour of the tree before the fix recorded in known_findings.json.) -/
theorem C11_counterexample_head_outside_batch :
    let d := applySteps { ledger := 7, head := 7, tries := [7] } ((appendSched false 8).take 5)
    d.ledger = 8 ∧ d.head = 7 ∧ ¬ Consistent d ∧ canResumeAppend d 7 8 = false := by
  simp [appendSched, applySteps, applyStep, Consistent, canResumeAppend, List.take]

/-- ... and likewise for a rollback batch without the head pointer. -/
theorem C11_counterexample_rollback_head_outside_batch :
    let d := applySteps { ledger := 8, head := 8, tries := [7, 8] } ((rollbackSched false 7).take 1)
    d.ledger = 7 ∧ d.head = 8 ∧ ¬ Consistent d := by
  simp [rollbackSched, applySteps, applyStep, Consistent, List.take]

/-- BodyDb.Append puts the head block hash into the block's batch before committing it, and the rollback loop of
SetCurrentHeader puts it into the per-block rollback batch (regenerated from source on every run). -/
theorem C11_current_tree_head_in_batches :
    Gen.appendBatchWritesHead = true ∧ Gen.rollbackWrites.contains "WriteHeadBlockHash(batch)" = true := by
  -- `simp` turns `contains` into membership; `decide` would have the kernel compare two equal strings with `==`, which is slow
  simp [Gen.appendBatchWritesHead, Gen.rollbackWrites]

/-- Non-vacuity: the schedules of the theorems are the ones with these flags. -/
example : SchedOK { ledger := 3, head := 3, tries := [3, 2] } (reorgSched true true [2] [5, 6]) := by
  simp [reorgSched, rollbackSched, appendSched, SchedOK, applyStep]

end QuaiVerif.Crash
